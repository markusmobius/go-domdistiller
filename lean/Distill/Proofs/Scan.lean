/-
  Proofs about `Model/Scan.lean`: every page info the DOM scan hands to the groups of adjacent
  numbers is the page info of an anchor of the tree, or a plain number without URL.
-/
import Distill.Model.Scan
namespace Distill.Scan
open Distill

def OkOp (A : A) : Pg.GOp → Prop
  | .add p => p.url = "" ∨ ∃ id, A.pageInfo id = some (p.num, p.url)
  | _ => True

def Inv (A : A) (s : St) : Prop := ∀ o ∈ s.ops, OkOp A o

theorem textOps_ok (A : A) (data : List Char) : ∀ o ∈ Pg.textOps data, OkOp A o := by
  unfold Pg.textOps
  split
  · exact List.forall_mem_singleton.2 trivial
  · refine List.forall_mem_map.2 fun t _ => ?_
    split
    · split
      · exact Or.inl rfl
      · trivial
    · trivial

theorem push_inv (A : A) (s : St) (os : List Pg.GOp) (h : Inv A s) (ho : ∀ o ∈ os, OkOp A o) : Inv A (s.push os) := by
  intro o hm
  simp only [St.push, List.mem_append, List.mem_reverse] at hm
  rcases hm with hm | hm
  · exact ho o hm
  · exact h o hm

/-- the count of forward links plays no part in `Inv` -/
theorem push_one (A : A) {s : St} (h : Inv A s) (o : Pg.GOp) (ho : OkOp A o) (k : Nat) :
    Inv A ({ s with fwd := k }.push [o]) :=
  push_inv A _ _ h (List.forall_mem_singleton.2 ho)

def StepInv (A : A) : Step → Prop
  | .done s => Inv A s
  | .go _ _ s => Inv A s

theorem step_inv (A : A) (rs : List Rec) (start : Nat) (cs bw : Bool) (s : St) (hs : Inv A s) :
    StepInv A (step A rs start cs bw s) := by
  unfold step
  repeat' split
  all_goals
    first
      | exact hs
      | exact push_inv A s _ hs (textOps_ok A _)
      | exact push_one A hs .addGroup trivial _
      | exact push_one A hs (.add _) (Or.inr ⟨_, ‹_›⟩) _

theorem walk_inv (A : A) (rs : List Rec) {fuel start : Nat} {cs bw : Bool} {s s' : St} (hs : Inv A s)
    (h : walk A rs fuel start cs bw s = some s') : Inv A s' := by
  fun_induction walk A rs fuel start cs bw s with
  | case1 => cases h
  | case2 _ start cs bw s s1 hstep =>
    cases h
    exact (hstep ▸ step_inv A rs start cs bw s hs : StepInv A (.done s'))
  | case3 _ start cs bw s st c s1 hstep ih =>
    exact ih (hstep ▸ step_inv A rs start cs bw s hs : StepInv A (.go st c s1)) h

theorem loop_inv (A : A) (rs : List Rec) {fuel : Nat} {links : List Nat} {s s' : St} (hs : Inv A s)
    (h : loop A rs fuel links s = some s') : Inv A s' := by
  fun_induction loop A rs fuel links s with
  | case1 => cases h
  | case2 => cases h; exact hs
  | case3 fuel link rest s hpi ih => exact ih hs h
  | case4 => cases h
  | case5 => cases h
  | case6 fuel link rest s num url hpi s0 s1 hw1 s2 s3 hw3 ih =>
    have h1 := walk_inv A rs (push_one A hs .addGroup trivial 0) hw1
    have h3 := walk_inv A rs (push_one A h1 (.add ⟨num, url⟩) (Or.inr ⟨link, hpi⟩) 0) hw3
    exact ih h3 h

theorem scanOps_provenance (A : A) (root : Node) (ops : List Pg.GOp) (h : scanOps A root = some ops) :
    ∀ o ∈ ops, OkOp A o := by
  unfold scanOps at h
  simp only [Option.map_eq_some_iff] at h
  obtain ⟨s, hl, rfl⟩ := h
  have hinv := loop_inv A _ (s := {}) (List.forall_mem_nil _) hl
  intro o ho
  simp only [List.mem_append, List.mem_reverse, List.mem_singleton] at ho
  rcases ho with ho | rfl
  · exact hinv o ho
  · trivial

end Distill.Scan
