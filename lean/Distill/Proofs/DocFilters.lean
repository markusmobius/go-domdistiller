import Distill.Model.DocFilters
namespace Distill

/-- every non-Text element starts out as not-content (true of every freshly built
document: only `TextBlock.ApplyToModel` sets flags before the document filters run) -/
def FreshMedia (es : List Elem) : Prop := ∀ e ∈ es, e.isText = false → e.content = false

/-- content flag of the nearest Text strictly before index `i` (`acc` when there is none) -/
def prevText (acc : Bool) : List Elem → Nat → Bool
  | [], _ => acc
  | _ :: _, 0 => acc
  | e :: es, i+1 => prevText (if e.isText then e.content else acc) es i

/-- what `RelevantElements` computes on a fresh document, without the case cascade of `relevantStep`: every
non-Text element takes the flag of the nearest Text before it (`prev`) -/
def relevantSpec (prev : Bool) : List Elem → List Elem
  | [] => []
  | e :: es =>
    if e.isText then e :: relevantSpec e.content es
    else { e with content := prev } :: relevantSpec prev es

theorem relevantGo_eq_spec (inC : Bool) (es : List Elem) (h : FreshMedia es) :
    relevantGo inC es = relevantSpec inC es := by
  induction es generalizing inC with
  | nil => rfl
  | cons e es ih =>
    have ih := fun p => ih p fun x hx => h x (List.mem_cons_of_mem _ hx)
    rw [relevantGo, relevantSpec, relevantStep]
    cases ht : e.isText
    · -- not a Text, so not content yet (`FreshMedia`): the step hands `inC` on and sets the flag to it
      have hc : e.content = false := h e List.mem_cons_self ht
      have he : { e with content := false } = e := by cases e; cases hc; rfl
      cases inC <;> simp [hc, ih, he]
    · -- a Text keeps its flag, which becomes the running one
      cases hc : e.content <;> simp [ih]

theorem relevantSpec_length (p : Bool) (es : List Elem) : (relevantSpec p es).length = es.length := by
  fun_induction relevantSpec p es <;> simp [*]

theorem relevantSpec_get (p : Bool) (es : List Elem) (i : Nat) :
    (relevantSpec p es)[i]? =
      es[i]?.map (fun e => if e.isText then e else { e with content := prevText p es i }) := by
  fun_induction relevantSpec p es generalizing i with
  | case1 => simp
  | case2 p e es ht ih => cases i <;> simp [prevText, ht, ih]
  | case3 p e es ht ih => cases i <;> simp [prevText, ht, ih]

theorem relevantSpec_kind (p : Bool) (es : List Elem) :
    (relevantSpec p es).map (·.kind) = es.map (·.kind) := by
  fun_induction relevantSpec p es <;> simp [*]

theorem setFlagAt_eq_modify (i : Nat) (c : Bool) (es : List Elem) :
    setFlagAt i c es = es.modify i (fun e => { e with content := c }) := by
  fun_induction setFlagAt i c es <;> simp [*]

theorem setFlagAt_length (i : Nat) (c : Bool) (es : List Elem) : (setFlagAt i c es).length = es.length := by
  rw [setFlagAt_eq_modify, List.length_modify]

theorem setFlagAt_get (i j : Nat) (c : Bool) (es : List Elem) :
    (setFlagAt i c es)[j]? = if i = j then es[j]?.map (fun e => { e with content := c }) else es[j]? := by
  rw [setFlagAt_eq_modify, List.getElem?_modify]
  split <;> simp

theorem setFlagAt_get_ne (i j : Nat) (c : Bool) (es : List Elem) (h : i ≠ j) :
    (setFlagAt i c es)[j]? = es[j]? := by
  rw [setFlagAt_get, if_neg h]

theorem setFlagAt_get_eq (i : Nat) (c : Bool) (es : List Elem) :
    (setFlagAt i c es)[i]? = es[i]?.map (fun e => { e with content := c }) := by
  rw [setFlagAt_get, if_pos rfl]

theorem setFlagAt_kind (i : Nat) (c : Bool) (es : List Elem) :
    (setFlagAt i c es).map (·.kind) = es.map (·.kind) := by
  refine List.ext_getElem? fun j => ?_
  rw [List.getElem?_map, setFlagAt_get]
  split <;> simp [Function.comp_def]

theorem setContentAt_eq (i : Nat) (es : List Elem) : setContentAt i es = setFlagAt i true es := by
  fun_induction setContentAt i es <;> simp [setFlagAt, *]

/-- the disjunct `last < i`: a scan that starts beyond `last` never meets it -/
theorem leadCandidates_kind (last i : Nat) (es : List Elem) :
    ∀ c ∈ leadCandidates last i es, ∃ k e, c = i + k ∧ es[k]? = some e ∧ (c < last ∨ last < i) ∧
      (e.kind = .image ∨ e.kind = .figure) ∧ e.content = false := by
  fun_induction leadCandidates last i es with
  | case1 => exact List.forall_mem_nil _
  | case2 => exact List.forall_mem_nil _
  | case3 i e es isImg h himg ih =>
    simp only [isImg, Bool.or_eq_true, Bool.and_eq_true, beq_iff_eq, not_or, not_and] at h himg
    intro c hc
    rcases List.mem_cons.mp hc with rfl | hc
    · exact ⟨0, e, rfl, rfl, by omega, himg, by simpa using h.1 himg⟩
    · -- a candidate from the tail, which is scanned from `i + 1`
      obtain ⟨k, e', rfl, h1, h2, h3⟩ := ih c hc
      exact ⟨k + 1, e', by omega, h1, by omega, h3⟩
  | case4 i e es isImg h himg ih =>
    simp only [Bool.or_eq_true, beq_iff_eq, not_or] at h
    intro c hc
    obtain ⟨k, e', rfl, h1, h2, h3⟩ := ih c hc
    exact ⟨k + 1, e', by omega, h1, by omega, h3⟩

theorem leadCandidates_spec (last i : Nat) (es : List Elem) :
    ∀ c ∈ leadCandidates last i es, i ≤ c ∧ c < last ∨ (i ≤ c ∧ last < i) := fun c hc =>
  let ⟨_, _, h1, _, h2, _⟩ := leadCandidates_kind last i es c hc
  h2.imp (⟨by omega, ·⟩) (⟨by omega, ·⟩)

theorem bestCandidate_inv (score : Nat → Int) (P : Nat × Int → Prop) (cs : List Nat)
    (hc : ∀ c ∈ cs, score c > leadMinScore → P (c, score c)) :
    ∀ best r, (∀ b, best = some b → P b) → bestCandidate score best cs = some r → P r := by
  intro best
  fun_induction bestCandidate score best cs with
  | case1 best => exact fun r hb h => hb r h
  -- the new candidate scores above the threshold (`hs`) and becomes the best one: there was none (case2), or it
  -- beats the one there was (case3)
  | case2 c cs s hs ih | case3 c cs s hs _ _ _ ih =>
    exact fun r _ => ih (fun x hx => hc x (List.mem_cons_of_mem _ hx)) r
      fun b e => Option.some.inj e ▸ hc c List.mem_cons_self hs
  -- the best one so far stays: it is not beaten (case4), or the candidate is below the threshold (case5)
  | case4 c cs _ _ _ _ _ ih | case5 _ c cs _ _ ih =>
    exact fun r hb => ih (fun x hx => hc x (List.mem_cons_of_mem _ hx)) r hb

theorem leadIndex_spec {score : Nat → Int} {es : List Elem} {i : Nat} (h : leadIndex score es = some i) :
    ∃ e, es[i]? = some e ∧ (e.kind = .image ∨ e.kind = .figure) ∧ e.content = false ∧
      score i > leadMinScore := by
  unfold leadIndex at h
  split at h
  · cases h
  · rename_i last _
    split at h
    · cases h
    · rename_i i' s hb
      cases h
      obtain ⟨hm, hs⟩ := bestCandidate_inv score
        (fun r => r.1 ∈ leadCandidates last 0 es ∧ score r.1 > leadMinScore) _
        (fun c hc hs => ⟨hc, hs⟩) none _ (fun _ e => by cases e) hb
      obtain ⟨k, e, rfl, he, _, hk, hc⟩ := leadCandidates_kind last 0 es _ hm
      exact ⟨e, by simpa using he, hk, hc, hs⟩

/-- What the lead-image filter can do: nothing, or set the content flag of exactly one
element, which is an image or figure that was not content, lies before the last content
Text, and scored above the threshold. -/
theorem leadImage_spec (score : Nat → Int) (es : List Elem) :
    match leadIndex score es with
    | none => leadImage score es = es
    | some i => leadImage score es = setFlagAt i true es ∧
        ∃ e, es[i]? = some e ∧ (e.kind = .image ∨ e.kind = .figure) ∧ e.content = false ∧
          score i > leadMinScore := by
  unfold leadImage
  cases h : leadIndex score es with
  | none => rfl
  | some i => exact ⟨setContentAt_eq i es, leadIndex_spec h⟩

theorem leadImage_get (score : Nat → Int) (es : List Elem) (i : Nat) :
    (leadImage score es)[i]? =
      es[i]?.map fun e => if leadIndex score es = some i then { e with content := true } else e := by
  unfold leadImage
  cases leadIndex score es with
  | none => simp
  | some k => simp only [setContentAt_eq, setFlagAt_get, Option.some.injEq]; split <;> simp

theorem leadImage_length (score : Nat → Int) (es : List Elem) : (leadImage score es).length = es.length := by
  unfold leadImage
  split
  · rfl
  · rw [setContentAt_eq, setFlagAt_length]

theorem domDistanceScore_le (d : Nat) : domDistanceScore d ≤ 25 := by
  unfold domDistanceScore; (repeat' split) <;> omega

end Distill
