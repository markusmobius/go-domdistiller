import Distill.Model.ImageExtract
import Distill.Proofs.MediaRender
namespace Distill.Img
open Distill

/-! ## `processPicture` -/

theorem onlyImgSource_tags (ks : List Node) : ∀ t ∈ tagsL (onlyImgSource ks), t = "img" ∨ t = "source" := by
  fun_induction onlyImgSource ks with
  | case1 => simp [tagsL]
  | case2 ks i t a kk ht ihk ih =>
    simp only [tagsL, Node.tags, List.cons_append, List.mem_cons, List.mem_append]
    rintro x (rfl | h | h)
    · simpa using ht
    · exact ihk x h
    · exact ih x h
  | case3 ks i t a kk _ ih => exact ih
  | case4 ks n hn ih =>
    cases n with
    | elem i t a kk => exact absurd rfl (hn i t a kk)
    | _ => simpa [tagsL, Node.tags] using ih

mutual
theorem renameFirstSource_tags : (n : Node) → ∀ t ∈ (renameFirstSource n).1.tags, t = "img" ∨ t ∈ n.tags
  | .text _ _ => by simp [renameFirstSource, Node.tags]
  | .other _ _ => by simp [renameFirstSource, Node.tags]
  | .elem i t a ks => by
    intro x hx
    simp only [renameFirstSource] at hx
    split at hx <;> simp only [Node.tags, List.mem_cons] at hx ⊢
    · exact hx.imp_right Or.inr
    · rcases hx with h | h
      · exact Or.inr (Or.inl h)
      · exact (renameFirstSourceL_tags ks x h).imp_right Or.inr
theorem renameFirstSourceL_tags : (ks : List Node) → ∀ t ∈ tagsL (renameFirstSourceL ks).1, t = "img" ∨ t ∈ tagsL ks
  | [] => by simp [renameFirstSourceL, tagsL]
  | k :: ks => by
    intro x hx
    simp only [renameFirstSourceL] at hx
    split at hx <;> simp only [tagsL, List.mem_append] at hx ⊢
    · -- found in `k`: the rest is untouched
      rcases hx with h | h
      · exact (renameFirstSource_tags k x h).imp_right Or.inl
      · exact Or.inr (Or.inr h)
    · -- else the search goes on in the rest
      rcases hx with h | h
      · exact (renameFirstSource_tags k x h).imp_right Or.inl
      · exact (renameFirstSourceL_tags ks x h).imp_right Or.inr
end

theorem renameFirstSource_isElem (k : Node) : (renameFirstSource k).1.isElem = k.isElem := by
  cases k with
  | elem i t a kk => simp only [renameFirstSource]; split <;> rfl
  | _ => rfl

theorem renameFirstSourceL_isElem : (ks : List Node) → (renameFirstSourceL ks).1.all Node.isElem = ks.all Node.isElem
  | [] => rfl
  | k :: ks => by
    simp only [renameFirstSourceL]
    split <;> simp [renameFirstSource_isElem, renameFirstSourceL_isElem ks]

theorem processPicture_kids (i : Nat) (t : String) (a : List Attr) (ks : List Node) :
    (processPicture (.elem i t a ks)).kids = (onlyImgSource ks).filter (·.isElem) ∨
    (processPicture (.elem i t a ks)).kids = (renameFirstSourceL ((onlyImgSource ks).filter (·.isElem))).1 := by
  simp only [processPicture]
  split
  · exact Or.inr rfl
  · exact Or.inl rfl

/-! ## `findVisibleFigCaption` -/

mutual
theorem visibleCaption_spec (A : CAtoms) : (n c : Node) → visibleCaption A n = some c →
    c.tag = "figcaption" ∧ visible A c.id c.tag c.attrs = true
  | .text _ _, _, h => by simp [visibleCaption] at h
  | .other _ _, _, h => by simp [visibleCaption] at h
  | .elem i t a ks, c, h => by
    simp only [visibleCaption] at h
    split at h
    · cases h
    · rename_i hv
      split at h
      · rename_i ht
        cases h
        show t = "figcaption" ∧ visible A i t a = true
        exact ⟨by simpa using ht, by simpa using hv⟩
      · exact visibleCaptionL_spec A ks c h
theorem visibleCaptionL_spec (A : CAtoms) : (ks : List Node) → (c : Node) → visibleCaptionL A ks = some c →
    c.tag = "figcaption" ∧ visible A c.id c.tag c.attrs = true
  | [], _, h => by simp [visibleCaptionL] at h
  | k :: ks, c, h => by
    simp only [visibleCaptionL] at h
    split at h
    · rename_i e hk
      cases h
      exact visibleCaption_spec A k _ hk
    · exact visibleCaptionL_spec A ks c h
end

end Distill.Img
