import Distill.Proofs.Convert
namespace Distill

/-! ## A simple paragraph is never cut in the middle -/

/-- inline tags: the converter walks such an element between a `StartNode` whose action does not flush and an
`EndNode` (`font` as `span`), unless it replaces an anchor by its text (`javascript:`) -/
def plainInlineTags : List String := ["b","i","em","strong","span","u","code","font","a"]

/-- attributes that none of the converter's gates looks at (`hidden`, `aria-hidden`, `class`, `role`,
`data-component` are what `gateSkip` reads; `data-vid` is where the harness keeps a node's id, go/harness/doc.go);
an anchor whose `href` holds `action=edit&section=` is a MediaWiki edit link, which the tag switch drops -/
def attrsPlain (tag : String) (attrs : List Attr) : Bool :=
  attrs.all (fun a => a.key == "data-vid" || (tag == "a" && a.key == "href")) &&
  !(tag == "a" && strContains (getAttr attrs "href") "action=edit&section=")

mutual
def Node.plainInline : Node → Bool
  | .text _ _ => true
  | .other _ _ => true
  | .elem _ t attrs ks =>
    (t == "br" && attrsPlain t attrs) || (plainInlineTags.contains t && attrsPlain t attrs && plainInlineL ks)
def plainInlineL : List Node → Bool
  | [] => true
  | k :: ks => k.plainInline && plainInlineL ks
end

/-- for every element id occurring in the subtree: no inline display style, not
visibility-hidden, not a byline, not "unlikely", no embed, not a foreign element named like a raw
text element -/
def PlainAtoms (A : CAtoms) (ids : List Nat) : Prop :=
  ∀ i ∈ ids, A.styleDisplay i = "" ∧ A.visHidden i = false ∧ A.byline i = false ∧
    A.rxUnlikely i = false ∧ A.embed i = .none ∧ A.foreignRaw i = false

/-! ### the invariant while the paragraph's inline content is processed

`a` is the length of the node list when the paragraph starts.  As long as nothing has been
appended (`|nodes| = a`) flushes may happen, but they happen *at* `a`; once something has been
appended the pending-flush bit is off and stays off. -/

structure PInv (a : Nat) (s : BSt) : Prop where
  le : a ≤ s.tb.nodes.length
  first : s.tb.firstNode ≤ a
  quiet : a < s.tb.nodes.length → s.flush = false

/-- what the builder may emit while the paragraph's content goes in: only Texts that stop at or before `a`,
the node count when the paragraph began -/
def OutOK (a : Nat) (new : List DocEl) : Prop := ∀ e ∈ new, ∃ t, e = DocEl.text t ∧ t.stop ≤ a

/-- `s'` continues `s` within the paragraph: the invariant holds again, the element stack is what it was, the
output grew by `OutOK` elements only -/
structure Ext (a : Nat) (s s' : BSt) : Prop where
  inv : PInv a s'
  stack : s'.stack = s.stack
  out : ∃ new, s'.out = s.out ++ new ∧ OutOK a new

theorem OutOK.append {a : Nat} {x y : List DocEl} (hx : OutOK a x) (hy : OutOK a y) : OutOK a (x ++ y) :=
  fun e he => (List.mem_append.1 he).elim (hx e) (hy e)

/-- `Ext.out` by itself, for steps that change the stack -/
def Grew (a : Nat) (s s' : BSt) : Prop := ∃ new, s'.out = s.out ++ new ∧ OutOK a new

theorem Grew.refl {a : Nat} {s : BSt} : Grew a s s := ⟨[], (List.append_nil _).symm, List.forall_mem_nil _⟩

theorem Grew.trans {a : Nat} {s s1 s2 : BSt} (h1 : Grew a s s1) (h2 : Grew a s1 s2) : Grew a s s2 := by
  obtain ⟨n1, e1, o1⟩ := h1
  obtain ⟨n2, e2, o2⟩ := h2
  exact ⟨n1 ++ n2, by rw [e2, e1, List.append_assoc], o1.append o2⟩

theorem Ext.refl {a : Nat} {s : BSt} (h : PInv a s) : Ext a s s := ⟨h, rfl, Grew.refl⟩

theorem Ext.trans {a : Nat} {s s1 s2 : BSt} (h1 : Ext a s s1) (h2 : Ext a s1 s2) : Ext a s s2 :=
  ⟨h2.inv, h2.stack.trans h1.stack, Grew.trans h1.out h2.out⟩

theorem PInv.flush_len {a : Nat} {s : BSt} (h : PInv a s) (hf : s.flush = true) : s.tb.nodes.length = a :=
  Nat.le_antisymm (Nat.not_lt.1 fun hlt => by rw [h.quiet hlt] at hf; cases hf) h.le

/-- `hq`: the call flushes only if the flush bit is set, so (`PInv.flush_len`) only while
nothing of the paragraph has been appended, and what it flushes ends at `a`.  `hfl` is what `PInv.quiet` needs:
the call clears the flush bit (text, `<br>`); or it appends no node and keeps the bit (a `StartNode` / `EndNode`
that asks for no flush); or it appends no node and none has been appended yet (the paragraph's own `StartNode`). -/
theorem PInv.step {a : Nat} {s : BSt} (e : BEv) (h : PInv a s) (hq : flushes s e = true → s.flush = true)
    (hnt : evNonText [e] = [])
    (hfl : (bstep s e).flush = false ∨
      nodeIds [e] = [] ∧ ((bstep s e).flush = s.flush ∨ s.tb.nodes.length = a)) :
    PInv a (bstep s e) ∧ Grew a s (bstep s e) := by
  have hF := bstep_shape s e
  rw [hnt] at hF
  have hn := hF.1
  have key : (bstep s e).tb.firstNode ≤ a ∧ Grew a s (bstep s e) := by
    rcases hF.2 with ⟨hf, ho⟩ | ⟨hfe, _⟩
    · exact ⟨hf ▸ h.first, [], ho, List.forall_mem_nil _⟩
    · have hlen := h.flush_len (hq hfe)
      obtain ⟨hw, new, ho, hnew⟩ := hF.window h.first
      exact ⟨by omega, new, ho, fun e he => (hnew e he).imp fun t ht => ⟨ht.1, by omega⟩⟩
  refine ⟨⟨by rw [hn, List.length_append]; exact Nat.le_trans h.le (Nat.le_add_right _ _), key.1, ?_⟩, key.2⟩
  rw [hn]
  rcases hfl with hfl | ⟨hids, hfl | hlen⟩
  · exact fun _ => hfl
  · rw [hids, List.append_nil, hfl]; exact h.quiet
  · rw [hids, List.append_nil, hlen]; exact fun h => absurd h (Nat.lt_irrefl _)

theorem PInv.add {a : Nat} {s : BSt} (e : BEv) (he : match e with | .addText .. | .addBr _ => True | _ => False)
    (h : PInv a s) : Ext a s (bstep s e) := by
  obtain ⟨hst, hfl⟩ := bstep_frame s e
  cases e with
  | addText | addBr => exact (PInv.step _ h id rfl (.inl hfl)).elim fun p o => ⟨p, hst, o⟩
  | _ => exact he.elim

/-- event lists that ask for no flush of their own: text nodes and line breaks, within elements whose action
does not flush -/
inductive Quiet : List BEv → Prop
  | nil : Quiet []
  | text i em b w : Quiet [.addText i em b w]
  | br i : Quiet [.addBr i]
  | wrap {act mid} : act.flush = false → Quiet mid → Quiet ([.startNode act] ++ mid ++ [.endNode])
  | append {x y} : Quiet x → Quiet y → Quiet (x ++ y)

/-- while a quiet list goes in, nothing of what it appends is flushed -/
theorem Quiet.ok {a : Nat} {evs : List BEv} (hq : Quiet evs) : ∀ {s}, PInv a s → Ext a s (brun s evs) := by
  induction hq with
  | nil => exact Ext.refl
  | text i em b w => exact PInv.add (.addText i em b w) trivial
  | br i => exact PInv.add (.addBr i) trivial
  | @wrap act mid ha _ ih =>
    intro s h
    simp only [brun_append, brun_cons, brun_nil]
    obtain ⟨hst1, hfl1⟩ := bstep_frame s (.startNode act)
    -- `StartNode` never flushes, and the bit stays `s.flush || false`
    obtain ⟨p1, g1⟩ := PInv.step (.startNode act) h (fun hf => by cases hf) rfl
      (.inr ⟨rfl, .inl (by simp [hfl1, ha])⟩)
    have m := ih p1
    have st : (brun (bstep s (.startNode act)) mid).stack = act :: s.stack := m.stack.trans hst1
    obtain ⟨hst3, hfl3⟩ := bstep_frame (brun (bstep s (.startNode act)) mid) .endNode
    -- `EndNode` flushes only if the bit is set, since `act.flush = false` is on top of the stack again
    obtain ⟨p3, g3⟩ := PInv.step .endNode m.inv (by simp [flushes, st, ha]) rfl (.inr ⟨rfl, .inl hfl3⟩)
    exact ⟨p3, by rw [hst3, st]; rfl, (g1.trans m.out).trans g3⟩
  | append _ _ ihx ihy =>
    intro s h
    rw [brun_append]
    exact (ihx h).trans (ihy (ihx h).inv)

/-- A quiet list inside an element of any action, when the pending window does not reach beyond the node list:
what is emitted before the element's own `EndNode` stops at or before `a`; that `EndNode` may flush, and then
flushes all of the list. -/
theorem Quiet.para {mid : List BEv} (hq : Quiet mid) (act : Action) (s : BSt)
    (hwf : s.tb.firstNode ≤ s.tb.nodes.length) :
    let a := s.tb.nodes.length
    let s' := brun s ([.startNode act] ++ mid ++ [.endNode])
    (∃ new, s'.out = s.out ++ new ∧ ∀ e ∈ new, ∃ t, e = DocEl.text t ∧
      (t.stop ≤ a ∨ (t.start ≤ a ∧ t.stop = a + (nodeIds mid).length))) ∧
    (s'.tb.firstNode ≤ a ∨ s'.tb.firstNode = a + (nodeIds mid).length) := by
  intro a
  simp only [brun_append, brun_cons, brun_nil]
  -- `StartNode`, whatever its action: nothing of the list has been appended yet
  obtain ⟨p1, g1⟩ := PInv.step (.startNode act) ⟨Nat.le_refl a, hwf, fun h => absurd h (Nat.lt_irrefl _)⟩
    (fun hf => by cases hf) rfl (.inr ⟨rfl, .inr rfl⟩)
  have m := hq.ok p1
  have len : (brun (bstep s (.startNode act)) mid).tb.nodes.length = a + (nodeIds mid).length := by
    rw [brun_nodes, bstep_nodes]; simp [nodeIds, a]
  obtain ⟨new, e, o⟩ := g1.trans m.out
  obtain ⟨hw, last, el, hlast⟩ := (bstep_shape _ .endNode).window m.inv.first
  rw [el, e, ← len]
  refine ⟨⟨new ++ last, List.append_assoc .., fun x hx => ?_⟩, hw⟩
  rcases List.mem_append.1 hx with hx | hx
  · exact (o x hx).imp fun t ht => ⟨ht.1, .inl ht.2⟩
  · exact (hlast x hx).imp fun t ht => ⟨ht.1, .inr ht.2⟩

def inlineOrBr : List String := "br" :: plainInlineTags

theorem inline_facts {t : String} (h : t ∈ inlineOrBr) :
    defaultDisplay t = "inline" ∧ emptyContainerTag t = false ∧ nestableTag t = false ∧
    skipFlushTag t = false ∧ t ≠ "table" ∧ t ≠ "video" := by
  have : inlineOrBr.all (fun t => defaultDisplay t == "inline" && !emptyContainerTag t && !nestableTag t &&
      !skipFlushTag t && t != "table" && t != "video") = true := by decide +kernel
  simpa [and_assoc] using List.all_eq_true.1 this t h

theorem attrsPlain_keys {t : String} {attrs : List Attr} (h : attrsPlain t attrs = true) :
    ∀ x ∈ attrs, x.key = "data-vid" ∨ (t = "a" ∧ x.key = "href") := by
  unfold attrsPlain at h
  simp only [Bool.and_eq_true, List.all_eq_true, Bool.or_eq_true, beq_iff_eq] at h
  exact h.1

theorem hasAttr_plain {t : String} {attrs : List Attr} (h : attrsPlain t attrs = true) {k : String}
    (hk : k ∉ ["data-vid", "href"]) : hasAttr attrs k = false :=
  hasAttr_eq_false.2 fun x hx e => hk (by rcases attrsPlain_keys h x hx with e1 | ⟨_, e1⟩ <;> simp [← e, e1])

theorem displayOf_inline {A : CAtoms} {i : Nat} {t : String} (hs : A.styleDisplay i = "")
    (hd : defaultDisplay t = "inline") : displayOf A i t = "inline" := by
  unfold displayOf
  simp [hs, hd]

theorem actionFor_noflush {A : CAtoms} {anc : List String} {i : Nat} {t : String} {attrs : List Attr}
    (hd : displayOf A i t = "inline") : (actionFor A anc i t attrs).flush = false := by
  unfold actionFor
  simp only [hd]
  have : (("inline" : String) == "none" || ("inline" : String) == "inline") = true := by decide
  simp only [this, if_true]
  split <;> split <;> rfl

theorem gateSkip_plain (cfg : CCfg) {A : CAtoms} (anc : List String) {i : Nat} {t : String}
    {attrs : List Attr} (ks : List Node) (ht : t ∈ inlineOrBr) (ha : attrsPlain t attrs = true)
    (hA : PlainAtoms A [i]) : gateSkip cfg A anc i t attrs ks = false := by
  obtain ⟨a1, a2, a3, a4, _, a6⟩ := hA i List.mem_cons_self
  obtain ⟨f1, f2, _⟩ := inline_facts ht
  have hno : ∀ k, k ∉ ["data-vid", "href"] → hasAttr attrs k = false := fun _ => hasAttr_plain ha
  have hget := fun k hk => getAttr_of_not_hasAttr (hno k hk)
  have hvis : visible A i t attrs = true := by
    simp [visible, Gen.isProbablyVisible, visAtoms, displayOf_inline a1 f1, a2, hno "hidden" (by decide),
      hget "aria-hidden" (by decide)]
  have hur : "" ∉ Gen.unlikelyRoles := by decide +kernel
  simp [gateSkip, hvis, a6, a3, a4, f2, hur, hget "class" (by decide), hget "data-component" (by decide),
    hget "role" (by decide)]

theorem plainInline_elem {i : Nat} {t : String} {attrs : List Attr} {ks : List Node}
    (h : (Node.elem i t attrs ks).plainInline = true) :
    t ∈ inlineOrBr ∧ attrsPlain t attrs = true ∧ (t ≠ "br" → plainInlineL ks = true) := by
  simp only [Node.plainInline, Bool.or_eq_true, Bool.and_eq_true, beq_iff_eq] at h
  rcases h with ⟨rfl, ha⟩ | ⟨⟨ht, ha⟩, hk⟩
  · exact ⟨List.mem_cons_self, ha, fun h => absurd rfl h⟩
  · exact ⟨List.mem_cons_of_mem _ (List.contains_iff_mem.1 ht), ha, fun _ => hk⟩

theorem visitElem_plain (cfg : CCfg) {A : CAtoms} (anc : List String) (hp : Bool) {i : Nat} {t : String}
    {attrs : List Attr} (ks : List Node) (ht : t ∈ inlineOrBr)
    (ha : attrsPlain t attrs = true) (hA : PlainAtoms A [i]) :
    (∃ evs, visitElem cfg A anc hp i t attrs ks = .emit evs ∧ Quiet evs) ∨
    (∃ act t', act.flush = false ∧ t ≠ "br" ∧
      visitElem cfg A anc hp i t attrs ks = .descend [.startNode act] [.endNode] t') := by
  obtain ⟨f1, _, f3, f4, f5, f6⟩ := inline_facts ht
  obtain ⟨a1, _, _, _, a5, _⟩ := hA i List.mem_cons_self
  rcases visitElem_spec cfg A anc hp i t attrs ks with ⟨hg, _⟩ | ⟨_, ⟨evs, h, hl⟩ | ⟨a', t', h, _, hb, ht'⟩⟩
  · rw [gateSkip_plain cfg anc ks ht ha hA] at hg; cases hg
  · refine .inl ⟨evs, h, ?_⟩
    cases hl with
    | silent => exact .nil
    | skip c => rw [f4] at c; cases c
    | table c => exact absurd c f5
    | video c => exact absurd c f6
    | embed k _ he => rw [a5] at he; cases he
    | br _ => exact .br i
    | jsText ti td => exact .text ..
  · refine .inr ⟨_, t', actionFor_noflush (displayOf_inline a1 ?_), hb, by simpa [tagEv, f3] using h⟩
    rcases ht' with rfl | ⟨_, rfl⟩
    · exact f1
    · decide +kernel

/- By the walk's own recursion and not as a `WalkInv` instance: `P` there cannot carry premises on the node
(`plainInline`, `PlainAtoms`) other than as implications, and its element case would then have to dispose of every
element that fails them. -/
mutual
theorem node_quiet (cfg : CCfg) (A : CAtoms) :
    (n : Node) → (anc : List String) → n.plainInline = true → PlainAtoms A n.allIds →
      Quiet (convertNode cfg A anc true n)
  | .text i d, anc, _, _ => by
    rw [convertNode_text]
    exact .text ..
  | .other _ _, anc, _, _ => by
    rw [convertNode_other]
    exact .nil
  | .elem i t attrs ks, anc, hp, hA => by
    rw [convertNode_elem]
    obtain ⟨ht, ha, hk⟩ := plainInline_elem hp
    rcases visitElem_plain (i := i) cfg anc true ks ht ha (fun j hj => hA j (by rw [List.mem_singleton.1 hj]; simp [Node.allIds])) with
      ⟨evs, h, he⟩ | ⟨act, t', hf, hb, h⟩ <;> rw [h] <;> simp only []
    · exact he
    · exact .wrap hf (kids_quiet cfg A ks (t' :: anc) (hk hb) fun j hj => hA j (by simp [Node.allIds, hj]))
theorem kids_quiet (cfg : CCfg) (A : CAtoms) :
    (ks : List Node) → (anc : List String) → plainInlineL ks = true → PlainAtoms A (allIdsL ks) →
      Quiet (convertKids cfg A anc ks)
  | [], anc, _, _ => by
    rw [convertKids_nil]
    exact .nil
  | k :: ks, anc, hp, hA => by
    rw [convertKids_cons]
    simp only [plainInlineL, Bool.and_eq_true] at hp
    simp only [allIdsL] at hA
    exact .append (node_quiet cfg A k anc hp.1 fun i hi => hA i (List.mem_append_left _ hi))
      (kids_quiet cfg A ks anc hp.2 fun i hi => hA i (List.mem_append_right _ hi))
end

theorem node_ok (cfg : CCfg) (A : CAtoms) (a : Nat) :
    (n : Node) → (anc : List String) → (s : BSt) → n.plainInline = true → PlainAtoms A n.allIds →
      PInv a s → Ext a s (brun s (convertNode cfg A anc true n)) :=
  fun n anc _ hp hA => (node_quiet cfg A n anc hp hA).ok

theorem convertNode_p (cfg : CCfg) (A : CAtoms) (anc : List String) (hp : Bool) (i : Nat)
    (attrs : List Attr) (ks : List Node) :
    convertNode cfg A anc hp (.elem i "p" attrs ks) = [] ∨
    ∃ act, convertNode cfg A anc hp (.elem i "p" attrs ks) =
      [.startNode act] ++ convertKids cfg A ("p" :: anc) ks ++ [.endNode] := by
  rw [convertNode_elem]
  rcases visitElem_spec cfg A anc hp i "p" attrs ks with ⟨_, h⟩ | ⟨_, ⟨evs, h, hl⟩ | ⟨a', t', h, _, _, ht'⟩⟩ <;> rw [h]
  · exact .inl rfl
  · left
    cases hl with
    | silent => rfl
    | skip c => exact absurd c (by decide +kernel)
    | embed k c _ => exact absurd c (by decide +kernel)
    | table c | video c | br c | jsText _ _ c => exact absurd c (by decide)
  · obtain rfl : t' = "p" := by
      rcases ht' with c | ⟨c, _⟩
      · exact c
      · exact absurd c (by decide)
    exact .inr ⟨_, by simp [tagEv, show nestableTag "p" = false by decide +kernel]; rfl⟩

/-- **A simple paragraph is never cut in the middle.**

`s` is any builder state whose pending window starts inside the node list
(`firstNode ≤ |nodes|`, an invariant of every reachable state: `BInv.first_le`). -/
theorem simple_para_not_cut (cfg : CCfg) (A : CAtoms) (anc : List String) (hp : Bool)
    (pid : Nat) (pattrs : List Attr) (ks : List Node) (s : BSt)
    (hk : plainInlineL ks = true) (hA : PlainAtoms A (allIdsL ks))
    (hwf : s.tb.firstNode ≤ s.tb.nodes.length) :
    let evs := convertNode cfg A anc hp (.elem pid "p" pattrs ks)
    let a := s.tb.nodes.length
    let s' := brun s evs
    s'.tb.nodes = s.tb.nodes ++ nodeIds evs ∧
    (∃ new, s'.out = s.out ++ new ∧
      ∀ e ∈ new, match e with
        | .text t => t.stop ≤ a ∨ (t.start ≤ a ∧ t.stop = a + (nodeIds evs).length)
        | _ => False) ∧
    (s'.tb.firstNode ≤ a ∨ s'.tb.firstNode = a + (nodeIds evs).length) := by
  rcases convertNode_p cfg A anc hp pid pattrs ks with h | ⟨act, h⟩ <;> rw [h] <;> intro evs a s'
  · exact ⟨(List.append_nil _).symm, ⟨[], (List.append_nil _).symm, List.forall_mem_nil _⟩, .inl hwf⟩
  · have hn : nodeIds evs = nodeIds (convertKids cfg A ("p" :: anc) ks) := by simp [evs, nodeIds_append, nodeIds]
    obtain ⟨⟨new, e, o⟩, hw⟩ := (kids_quiet cfg A ks ("p" :: anc) hk hA).para act s hwf
    rw [hn]
    exact ⟨hn ▸ brun_nodes s evs, ⟨new, e, fun x hx => by obtain ⟨t, rfl, ht⟩ := o x hx; exact ht⟩, hw⟩

/-! ### the hypotheses are satisfiable: `<p>a <b>b</b><br>c <a href="javascript:void(0)">d</a> e</p>` -/

def exKids : List Node :=
  [.text 1 "a ", .elem 2 "b" [⟨"data-vid", "2"⟩] [.text 3 "b"], .elem 4 "br" [] [], .text 5 "c ",
   .elem 6 "a" [⟨"href", "javascript:void(0)"⟩] [.text 7 "d"], .text 8 " e"]

def exAtoms : CAtoms :=
  { styleDisplay := fun _ => "", visHidden := fun _ => false, byline := fun _ => false,
    rxUnlikely := fun _ => false, rxMaybe := fun _ => false, embed := fun _ => .none,
    dataTable := fun _ => false, blank := fun _ => false, words := fun _ => 1 }

example : plainInlineL exKids = true := by decide +kernel

example : PlainAtoms exAtoms (allIdsL exKids) := fun _ _ => ⟨rfl, rfl, rfl, rfl, rfl, rfl⟩

/-- and the paragraph is not skipped: all six text/br nodes reach the builder -/
example : nodeIds (convertNode ⟨true⟩ exAtoms ["body"] true (.elem 0 "p" [] exKids)) = [1, 3, 4, 5, 7, 8] := by
  decide +kernel

/-- the hypothesis `firstNode ≤ |nodes|` of `simple_para_not_cut` cannot be dropped: in the
(unreachable) state with an empty node list and `firstNode = 1`, a paragraph inside `<li>`
(whose `EndNode` does not flush; under `<body>` it would, and the conclusion would hold) leaves `firstNode = 1`,
strictly inside its six nodes -/
example :
    ¬ (let s : BSt := { tb := { firstNode := 1 } }
       let s' := brun s (convertNode ⟨true⟩ exAtoms ["li"] true (.elem 0 "p" [] exKids))
       s'.tb.firstNode ≤ 0 ∨ s'.tb.firstNode = 0 + 6) := by
  decide +kernel

#print axioms simple_para_not_cut

end Distill
