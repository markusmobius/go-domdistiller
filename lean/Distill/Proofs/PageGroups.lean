/-
  Proofs about the groups of adjacent monotonic page numbers (Model/PageGroups.lean): the invariant
  `Inv`, read with the groups split at the last one, the group being filled (`inv_snoc_iff`,
  `MG.eq_nil_or_concat`); and, for C17, what an ascending run of `add` calls leaves (`ascending_one_group`).
-/
import Distill.Model.PageGroups
import Distill.Proofs.Basics
namespace Distill.Pg

/-- consecutive numbers differ by a step of sign `d` -/
def Steps (d : Int) : List PInfo → Prop
  | a :: b :: rest => sign (b.num - a.num) = d ∧ Steps d (b :: rest)
  | _ => True

/-- a group is monotonic in the direction it records; the direction is 0 exactly while it has at most one entry -/
def GroupOk (g : PGroup) : Prop :=
  Steps g.deltaSign g.list ∧ (g.list.length ≤ 1 → g.deltaSign = 0) ∧ (2 ≤ g.list.length → g.deltaSign = 1 ∨ g.deltaSign = -1)

/-- the call protocol of the DOM scan: no CleanUp before the end -/
def NoCleanUp (ops : List GOp) : Prop := ∀ op ∈ ops, op ≠ GOp.cleanUp

structure Inv (m : MG) : Prop where
  groupsOk : ∀ g ∈ m.groups, GroupOk g
  innerNonEmpty : ∀ g ∈ m.groups.dropLast, g.list ≠ []
  /-- `prevPageInfo` is the last entry of the group being filled (so the nil dereference in
  `AddPageInfo` cannot happen) -/
  prevIsLast : ∀ g, m.groups.getLast? = some g → g.list ≠ [] → m.prev = g.list.getLast?

theorem sign_cases (x : Int) : sign x = 1 ∨ sign x = -1 ∨ sign x = 0 := by
  unfold sign
  omega

theorem sign_pos {x : Int} (h : 0 < x) : sign x = 1 := by
  simp [sign, h]

theorem steps_snoc (d : Int) (l : List PInfo) (q p : PInfo) (hl : Steps d l)
    (hq : l.getLast? = some q) (hs : sign (p.num - q.num) = d) : Steps d (l ++ [p]) := by
  induction l with
  | nil => simp at hq
  | cons a t ih =>
    cases t with
    | nil =>
      obtain rfl : a = q := by simpa using hq
      exact ⟨hs, trivial⟩
    | cons b r => exact ⟨hl.1, ih hl.2 (by simpa [List.getLast?_cons_cons] using hq)⟩

theorem inv_snoc_iff (ys : List PGroup) (g : PGroup) (pv : Option PInfo) :
    Inv ⟨ys ++ [g], pv⟩ ↔
      (∀ x ∈ ys, GroupOk x ∧ x.list ≠ []) ∧ GroupOk g ∧ (g.list ≠ [] → pv = g.list.getLast?) := by
  constructor
  · intro h
    exact ⟨fun x hx => ⟨h.groupsOk x (by simp [hx]), h.innerNonEmpty x (by simpa using hx)⟩,
      h.groupsOk g (by simp), h.prevIsLast g (by simp)⟩
  · rintro ⟨h1, h2, h3⟩
    refine ⟨forall_mem_snoc.2 ⟨fun x hx => (h1 x hx).1, h2⟩, fun x hx => (h1 x (by simpa using hx)).2, fun x hx => ?_⟩
    obtain rfl : g = x := by simpa using hx
    exact h3

theorem MG.eq_nil_or_concat (m : MG) : (∃ pv, m = ⟨[], pv⟩) ∨ ∃ ys g pv, m = ⟨ys ++ [g], pv⟩ := by
  obtain ⟨gs, pv⟩ := m
  rcases List.eq_nil_or_concat gs with rfl | ⟨ys, g, rfl⟩
  · exact Or.inl ⟨pv, rfl⟩
  · exact Or.inr ⟨ys, g, pv, by simp⟩

@[simp] theorem setLast_concat (ys : List PGroup) (g g' : PGroup) : setLast (ys ++ [g]) g' = ys ++ [g'] := by
  simp [setLast]

theorem groups_inv_empty : Inv {} := by
  refine ⟨?_, ?_, ?_⟩ <;> simp

theorem groupOk_single (p : PInfo) : GroupOk { list := [p], deltaSign := 0 } := by
  simp [GroupOk, Steps]

theorem groupOk_snoc {g : PGroup} {q p : PInfo} {d : Int} (hg : GroupOk g) (hq : g.list.getLast? = some q)
    (hs : sign (p.num - q.num) = d) (hd : d ≠ 0) (hgd : g.deltaSign = d ∨ g.deltaSign = 0) :
    GroupOk { list := g.list ++ [p], deltaSign := d } := by
  have hlen : 0 < g.list.length := List.length_pos_iff.mpr fun e => by simp [e] at hq
  have := sign_cases (p.num - q.num)
  -- a group that records no direction yet has one entry, and one entry makes no step
  have hst : Steps d g.list := by
    rcases hgd with e | e
    · exact e ▸ hg.1
    · match hgl : g.list with
      | [] | [_] => exact True.intro
      | a :: b :: r => have := hg.2.2 (by simp [hgl]); omega
  refine ⟨steps_snoc d g.list q p hst hq hs, ?_, ?_⟩ <;> simp only [List.length_append, List.length_singleton]
  · omega
  · omega

theorem inv_addGroup (m : MG) (h : Inv m) : Inv m.addGroup := by
  rcases m.eq_nil_or_concat with ⟨pv, rfl⟩ | ⟨ys, g, pv, rfl⟩
  · exact (inv_snoc_iff [] _ _).2 ⟨List.forall_mem_nil _, by simp [GroupOk, Steps], by simp⟩
  · simp only [MG.addGroup, List.getLast?_concat]
    split
    · exact h
    · rename_i hne
      obtain ⟨h1, h2, _⟩ := (inv_snoc_iff ys g pv).1 h
      exact (inv_snoc_iff (ys ++ [g]) _ _).2
        ⟨forall_mem_snoc.2 ⟨h1, h2, by simpa using hne⟩, by simp [GroupOk, Steps], by simp⟩

theorem inv_add (m : MG) (p : PInfo) (h : Inv m) : Inv (m.add p) := by
  rcases m.eq_nil_or_concat with ⟨pv, rfl⟩ | ⟨ys, g, pv, rfl⟩
  · exact h
  obtain ⟨h1, h2, h3⟩ := (inv_snoc_iff ys g pv).1 h
  simp only [MG.add, List.getLast?_concat, setLast_concat]
  refine ite_cases Inv (fun hemp => ?_) fun hne => ?_
  · refine (inv_snoc_iff ys _ _).2 ⟨h1, ?_, by simp⟩
    rw [show g.deltaSign = 0 from h2.2.1 (by simp [List.isEmpty_iff.1 hemp])]
    exact groupOk_single p
  have hne : g.list ≠ [] := by simpa using hne
  obtain ⟨q, hq⟩ : ∃ q, g.list.getLast? = some q := ⟨_, List.getLast?_eq_some_getLast hne⟩
  obtain rfl : pv = some q := (h3 hne).trans hq
  generalize hs : sign (p.num - q.num) = d
  -- the group being filled stays, closed, or is replaced; the new last group ends with `p`
  have keep := fun g' (hg' : GroupOk g') (hl : g'.list ≠ [] → some p = g'.list.getLast?) =>
    (inv_snoc_iff (ys ++ [g]) g' (some p)).2 ⟨forall_mem_snoc.2 ⟨h1, h2, hne⟩, hg', hl⟩
  have repl := fun g' (hg' : GroupOk g') (hl : g'.list ≠ [] → some p = g'.list.getLast?) =>
    (inv_snoc_iff ys g' (some p)).2 ⟨h1, hg', hl⟩
  refine ite_cases Inv (fun hdg => ite_cases Inv (fun hg0 => ?_) fun hg0 => ?_) fun hdg =>
    ite_cases Inv (fun hd0 => ?_) fun hd0 => ?_
  · -- the direction changes: a new group, led by the previous number unless `p` repeats it
    split
    · rename_i hd0
      exact keep _ (groupOk_snoc (groupOk_single q) rfl hs (by simpa using hd0) (Or.inr rfl)) (by simp)
    · rename_i hd0
      rw [show d = 0 by simpa using hd0]
      exact keep _ (groupOk_single p) (by simp)
  · -- the group had one entry and gets its direction
    have hg0 : g.deltaSign = 0 := by simpa using hg0
    exact repl _ (groupOk_snoc h2 hq hs (fun e => by simp [e, hg0] at hdg) (Or.inr hg0)) (by simp)
  · -- `p` repeats the group's only number and replaces it
    rw [show d = 0 by simpa using hd0]
    exact repl _ (groupOk_single p) (by simp)
  · -- `p` goes on in the group's direction
    exact repl _ (groupOk_snoc h2 hq hs (by simpa using hd0) (Or.inl (Eq.symm (by simpa using hdg)))) (by simp)

theorem runOps_inv (ops : List GOp) (h : NoCleanUp ops) : Inv (runOps ops) :=
  foldl_inv Inv MG.step ops {} groups_inv_empty fun m op hop hm => by
    cases op with
    | addGroup => exact inv_addGroup m hm
    | add p => exact inv_add m p hm
    | cleanUp => exact absurd rfl (h _ hop)

theorem scan_groups_ok (ops : List GOp) (h : NoCleanUp ops) :
    ∀ g ∈ (runOps (ops ++ [GOp.cleanUp])).groups, GroupOk g ∧ g.list ≠ [] := by
  have hi := runOps_inv ops h
  rw [show runOps (ops ++ [GOp.cleanUp]) = (runOps ops).cleanUp by simp [runOps, List.foldl_append, MG.step]]
  rcases (runOps ops).eq_nil_or_concat with ⟨pv, e⟩ | ⟨ys, g, pv, e⟩ <;> rw [e] at hi ⊢
  · simp [MG.cleanUp]
  · obtain ⟨h1, h2, _⟩ := (inv_snoc_iff ys g pv).1 hi
    simp only [MG.cleanUp, List.getLast?_concat, List.dropLast_concat]
    split
    · exact h1
    · rename_i hne
      exact forall_mem_snoc.2 ⟨h1, h2, by simpa using hne⟩

theorem fold_add_asc (ps : List PInfo) (l : List PInfo) (q : PInfo) (hq : l.getLast? = some q)
    (hasc : (q :: ps).Pairwise (·.num < ·.num)) :
    (ps.map GOp.add).foldl MG.step { groups := [{ list := l, deltaSign := 1 }], prev := some q }
      = { groups := [{ list := l ++ ps, deltaSign := 1 }], prev := (q :: ps).getLast? } := by
  induction ps generalizing l q with
  | nil => simp
  | cons p ps ih =>
    obtain ⟨hqp, hps⟩ := List.pairwise_cons.1 hasc
    have hne : l ≠ [] := by intro h; simp [h] at hq
    have hs : sign (p.num - q.num) = 1 := sign_pos (by have := hqp p List.mem_cons_self; omega)
    have hstep : MG.add { groups := [{ list := l, deltaSign := 1 }], prev := some q } p
        = { groups := [{ list := l ++ [p], deltaSign := 1 }], prev := some p } := by
      simp [MG.add, hne, hs, setLast]
    simp only [List.map_cons, List.foldl_cons, MG.step, hstep]
    rw [ih (l ++ [p]) p (by simp) hps]
    simp [List.getLast?_cons_cons]

theorem ascending_one_group (ps : List PInfo) (hlen : 2 ≤ ps.length) (hasc : ps.Pairwise (·.num < ·.num)) :
    (runOps (GOp.addGroup :: ps.map GOp.add ++ [GOp.cleanUp])).groups = [{ list := ps, deltaSign := 1 }] := by
  match ps, hlen, hasc with
  | a :: b :: rest, _, hasc =>
    obtain ⟨hab, hasc⟩ := List.pairwise_cons.1 hasc
    have hs : sign (b.num - a.num) = 1 := sign_pos (by have := hab b List.mem_cons_self; omega)
    have h1 : MG.addGroup {} = { groups := [{ list := [], deltaSign := 0 }], prev := none } := by
      simp [MG.addGroup]
    have h2 : MG.add { groups := [{ list := [], deltaSign := 0 }], prev := none } a
        = { groups := [{ list := [a], deltaSign := 0 }], prev := some a } := by
      simp [MG.add, setLast]
    have h3 : MG.add { groups := [{ list := [a], deltaSign := 0 }], prev := some a } b
        = { groups := [{ list := [a, b], deltaSign := 1 }], prev := some b } := by
      simp [MG.add, setLast, hs]
    simp only [runOps, List.map_cons, List.cons_append, List.foldl_cons, List.foldl_append,
      List.foldl_nil, MG.step, h1, h2, h3]
    rw [fold_add_asc rest [a, b] b (by simp) hasc]
    simp [MG.cleanUp]

end Distill.Pg
