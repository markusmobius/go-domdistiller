import Distill.Model.Builder
namespace Distill

/-! ## The document builder never moves, duplicates or reorders text nodes

Every `Text` element's window is a contiguous slice `[start, stop)` of the builder's node
list; windows are non-empty, strictly increasing and disjoint. -/

def textsOf : List DocEl → List TextEl
  | [] => []
  | .text t :: r => t :: textsOf r
  | _ :: r => textsOf r

theorem textsOf_append (a b : List DocEl) : textsOf (a ++ b) = textsOf a ++ textsOf b := by
  fun_induction textsOf a <;> simp [textsOf, *]

/-- the windows `ws`, in order, are non-empty slices `[start, stop)` of `nodes`, the first starting at or after
`lo` and each later one at or after the stop of the one before -/
def Slices (nodes : List Nat) : Nat → List TextEl → Prop
  | _, [] => True
  | lo, t :: r => lo ≤ t.start ∧ t.start < t.stop ∧ t.stop ≤ nodes.length ∧
      t.win = (nodes.drop t.start).take (t.stop - t.start) ∧ Slices nodes t.stop r

theorem Slices.mono_nodes (nodes extra : List Nat) : ∀ (lo : Nat) (ws : List TextEl),
    Slices nodes lo ws → Slices (nodes ++ extra) lo ws
  | _, [], _ => trivial
  | lo, t :: r, h => by
    obtain ⟨h1, h2, h3, h4, h5⟩ := h
    refine ⟨h1, h2, by simp; omega, ?_, Slices.mono_nodes nodes extra _ r h5⟩
    rw [h4, List.drop_append_of_le_length (by omega)]
    rw [List.take_append_of_le_length (by simp; omega)]

theorem Slices.snoc (nodes : List Nat) (t : TextEl) : ∀ (lo : Nat) (ws : List TextEl),
    Slices nodes lo ws → (∀ w ∈ ws, w.stop ≤ t.start) → Slices nodes lo [t] → Slices nodes lo (ws ++ [t])
  | _, [], _, _, ht => ht
  | _, w :: r, ⟨a1, a2, a3, a4, a5⟩, hb, ht =>
    ⟨a1, a2, a3, a4, Slices.snoc nodes t _ r a5 (fun x hx => hb x (List.mem_cons_of_mem _ hx))
      ⟨hb w List.mem_cons_self, ht.2⟩⟩

theorem Slices.of_mem (nodes : List Nat) : ∀ (lo : Nat) (ws : List TextEl), Slices nodes lo ws →
    ∀ t ∈ ws, t.start < t.stop ∧ t.stop ≤ nodes.length
  | _, [], _ => List.forall_mem_nil _
  | _, w :: r, ⟨_, h2, h3, _, h5⟩ => fun t ht => by
    rcases List.mem_cons.1 ht with rfl | ht
    · exact ⟨h2, h3⟩
    · exact Slices.of_mem nodes _ r h5 t ht

theorem Slices.sublist (nodes : List Nat) : ∀ (lo : Nat) (ws : List TextEl),
    Slices nodes lo ws → ((ws.map (·.win)).flatten).Sublist (nodes.drop lo)
  | _, [], _ => by simp
  | lo, t :: r, h => by
    obtain ⟨h1, h2, _, h4, h5⟩ := h
    -- from `start` on, the node list is the window followed by what comes from `stop` on
    have e := List.take_append_drop (t.stop - t.start) (nodes.drop t.start)
    rw [← h4, List.drop_drop, show t.start + (t.stop - t.start) = t.stop by omega] at e
    rw [List.map_cons, List.flatten_cons]
    exact ((List.Sublist.refl _).append (Slices.sublist nodes t.stop r h5)).trans
      (e ▸ List.drop_sublist_drop_left nodes h1)

/-- `stops`: every finished window ends at or before where the pending one starts -/
structure BInv (s : BSt) : Prop where
  first_le : s.tb.firstNode ≤ s.tb.nodes.length
  slices : Slices s.tb.nodes 0 (textsOf s.out)
  stops : ∀ w ∈ textsOf s.out, w.stop ≤ s.tb.firstNode

theorem BInv.init : BInv {} := ⟨Nat.le_refl _, trivial, by simp [textsOf]⟩

/-! `TB.build` / `flushBlock` and `bstep` are unfolded in `flushBlock_cases`, `bstep_shape` and `bstep_frame`,
and nowhere else. -/

theorem flushBlock_cases (s : BSt) :
    (s.tb.firstNode = s.tb.nodes.length ∧ s.flushBlock = s) ∨
    (s.tb.firstNode ≠ s.tb.nodes.length ∧
      (s.flushBlock = { s with tb := s.tb.reset } ∨
       ∃ t, s.flushBlock = { s with tb := s.tb.reset, nextTextIndex := s.nextTextIndex + 1,
                                     out := s.out ++ [.text t] } ∧
         t.start = s.tb.firstNode ∧ t.stop = s.tb.nodes.length ∧ t.win = s.tb.nodes.drop s.tb.firstNode)) := by
  unfold BSt.flushBlock TB.build
  by_cases h0 : s.tb.firstNode = s.tb.nodes.length
  · exact .inl ⟨h0, by rw [if_pos h0]⟩
  · refine .inr ⟨h0, ?_⟩
    rw [if_neg h0]
    by_cases h1 : s.tb.firstNonWS < (s.tb.firstNode : Int)
    · exact .inl (by rw [if_pos h1])
    · exact .inr ⟨_, by rw [if_neg h1], rfl, rfl, rfl⟩

/-- `s'` is `s` after at most one flush, and none unless `fl`, followed by appending `ids` to the node list
and `els` to the output (as far as node list, pending window and output go) -/
def Flushed (s : BSt) (fl : Bool) (ids : List Nat) (els : List DocEl) (s' : BSt) : Prop :=
  s'.tb.nodes = s.tb.nodes ++ ids ∧
  ((s'.tb.firstNode = s.tb.firstNode ∧ s'.out = s.out ++ els) ∨
   (fl = true ∧ s.tb.firstNode ≠ s.tb.nodes.length ∧ s'.tb.firstNode = s.tb.nodes.length ∧
    (s'.out = s.out ++ els ∨ ∃ t, s'.out = s.out ++ .text t :: els ∧ t.start = s.tb.firstNode ∧
      t.stop = s.tb.nodes.length ∧ t.win = s.tb.nodes.drop s.tb.firstNode)))

theorem Flushed.refl (s : BSt) (fl : Bool) : Flushed s fl [] [] s :=
  ⟨(List.append_nil _).symm, .inl ⟨rfl, (List.append_nil _).symm⟩⟩

theorem Flushed.congr {s s1 s' : BSt} {fl : Bool} {ids : List Nat} {els : List DocEl} (h : Flushed s fl ids els s1)
    (hn : s'.tb.nodes = s1.tb.nodes) (hf : s'.tb.firstNode = s1.tb.firstNode) (ho : s'.out = s1.out) :
    Flushed s fl ids els s' := by
  unfold Flushed
  rw [hn, hf, ho]
  exact h

/-- first the flush, if any, then what the call appends -/
theorem Flushed.then {s s1 s' : BSt} {fl : Bool} {ids : List Nat} {els : List DocEl} (h : Flushed s fl [] [] s1)
    (hn : s'.tb.nodes = s1.tb.nodes ++ ids) (hf : s'.tb.firstNode = s1.tb.firstNode) (ho : s'.out = s1.out ++ els) :
    Flushed s fl ids els s' := by
  obtain ⟨hn1, hc⟩ := h
  rw [hn1, List.append_nil] at hn
  refine ⟨hn, ?_⟩
  rcases hc with ⟨h1, h2⟩ | ⟨c, h0, h1, h2 | ⟨t, h2, ht⟩⟩ <;> rw [h2, List.append_assoc] at ho
  · exact .inl ⟨hf.trans h1, ho⟩
  · exact .inr ⟨c, h0, hf.trans h1, .inl ho⟩
  · exact .inr ⟨c, h0, hf.trans h1, .inr ⟨t, ho, ht⟩⟩

/-- What one call that appends no element of its own may emit, seen from `a`: at most one Text, which starts at or
before `a` and stops at the old node count; the new pending window starts at or before `a`, or at the old count. -/
theorem Flushed.window {a : Nat} {s s' : BSt} {fl : Bool} {ids : List Nat} (hF : Flushed s fl ids [] s')
    (h : s.tb.firstNode ≤ a) :
    (s'.tb.firstNode ≤ a ∨ s'.tb.firstNode = s.tb.nodes.length) ∧
    ∃ new, s'.out = s.out ++ new ∧
      ∀ e ∈ new, ∃ t, e = DocEl.text t ∧ t.start ≤ a ∧ t.stop = s.tb.nodes.length := by
  rcases hF.2 with ⟨h1, h2⟩ | ⟨_, _, h1, h2 | ⟨t, h2, t1, t2, _⟩⟩
  · exact ⟨.inl (h1 ▸ h), [], h2, List.forall_mem_nil _⟩
  · exact ⟨.inr h1, [], h2, List.forall_mem_nil _⟩
  · exact ⟨.inr h1, [.text t], h2, fun e he => ⟨t, List.mem_singleton.1 he, t1 ▸ h, t2⟩⟩

theorem flushBlock_flushed (s : BSt) :
    Flushed s true [] [] s.flushBlock ∧ s.flushBlock.stack = s.stack ∧ s.flushBlock.flush = s.flush := by
  rcases flushBlock_cases s with ⟨_, h⟩ | ⟨h0, h | ⟨t, h, ht⟩⟩ <;> rw [h]
  · exact ⟨.refl s true, rfl, rfl⟩
  · exact ⟨⟨(List.append_nil _).symm, .inr ⟨rfl, h0, rfl, .inl (List.append_nil _).symm⟩⟩, rfl, rfl⟩
  · exact ⟨⟨(List.append_nil _).symm, .inr ⟨rfl, h0, rfl, .inr ⟨t, rfl, ht⟩⟩⟩, rfl, rfl⟩

theorem BInv.of_flushed {s s' : BSt} {fl : Bool} {ids : List Nat} {els : List DocEl} (h : BInv s)
    (hF : Flushed s fl ids els s') (he : textsOf els = []) : BInv s' := by
  obtain ⟨h1, h2, h3⟩ := h
  obtain ⟨hn, hc⟩ := hF
  -- it is enough to look at the old node list
  suffices h : s'.tb.firstNode ≤ s.tb.nodes.length ∧ Slices s.tb.nodes 0 (textsOf s'.out) ∧
      ∀ w ∈ textsOf s'.out, w.stop ≤ s'.tb.firstNode from
    ⟨by rw [hn, List.length_append]; exact Nat.le_trans h.1 (Nat.le_add_right _ _),
      hn ▸ Slices.mono_nodes _ ids _ _ h.2.1, h.2.2⟩
  rcases hc with ⟨hf, ho⟩ | ⟨_, h0, hf, ho | ⟨t, ho, t1, t2, t3⟩⟩ <;>
    simp only [ho, hf, textsOf_append, textsOf, he, List.append_nil]
  · exact ⟨h1, h2, h3⟩
  · exact ⟨Nat.le_refl _, h2, fun w hw => Nat.le_trans (h3 w hw) h1⟩
  · refine ⟨Nat.le_refl _, Slices.snoc _ t 0 _ h2 (fun w hw => t1 ▸ h3 w hw)
      ⟨Nat.zero_le _, by omega, by omega, ?_, trivial⟩, fun w hw => ?_⟩
    · rw [t3, t1, t2, List.take_of_length_le (by simp)]
    · rcases List.mem_append.1 hw with hw | hw
      · exact Nat.le_trans (h3 w hw) h1
      · rw [List.mem_singleton.1 hw, t2]; exact Nat.le_refl _

theorem BInv.flushBlock (s : BSt) (h : BInv s) : BInv s.flushBlock := h.of_flushed (flushBlock_flushed s).1 rfl

theorem BInv.append (s s' : BSt) (extra : List Nat) (h : BInv s) (hn : s'.tb.nodes = s.tb.nodes ++ extra)
    (hf : s'.tb.firstNode = s.tb.firstNode) (ho : s'.out = s.out) : BInv s' :=
  h.of_flushed ((Flushed.refl s false).then (els := []) hn hf (ho.trans (List.append_nil _).symm)) rfl

/-- the ids the calls append to `TextBuilder.nodes`: non-empty text nodes and `br`s (not the node ids of a tree) -/
def nodeIds : List BEv → List Nat
  | [] => []
  | .addText i e _ _ :: r => (if e then [] else [i]) ++ nodeIds r
  | .addBr i :: r => i :: nodeIds r
  | _ :: r => nodeIds r

theorem nodeIds_append (a b : List BEv) : nodeIds (a ++ b) = nodeIds a ++ nodeIds b := by
  fun_induction nodeIds a <;> simp [nodeIds, *]

def nonTextOf : List DocEl → List DocEl
  | [] => []
  | .text _ :: r => nonTextOf r
  | e :: r => e :: nonTextOf r

/-- what a run of events puts out besides Text elements (`bstep_shape`) -/
def evNonText : List BEv → List DocEl
  | [] => []
  | .addTag n s :: r => .tag n s :: evNonText r
  | .addTable i :: r => .table i :: evNonText r
  | .addEmbed k i :: r => .media k i :: evNonText r
  | _ :: r => evNonText r

theorem evNonText_append (a b : List BEv) : evNonText (a ++ b) = evNonText a ++ evNonText b := by
  fun_induction evNonText a <;> simp [evNonText, *]

theorem TB.addText_nodes (tb : TB) (id : Nat) (e b : Bool) (w : Nat) (tl : Int) :
    (tb.addText id e b w tl).firstNode = tb.firstNode ∧
    (tb.addText id e b w tl).nodes = tb.nodes ++ (if e then [] else [id]) := by
  unfold TB.addText
  cases e <;> cases b <;> simp

/-- may the call flush the pending window before it does its own work (the `fl` of `bstep_shape`) -/
def flushes (s : BSt) : BEv → Bool
  | .addText .. | .addBr _ => s.flush
  | .endNode => match s.stack with
    | a :: _ => s.flush || a.flush
    | [] => false
  | .addTable _ | .addTag .. | .addEmbed .. => true
  | _ => false

theorem preText_cases (s : BSt) :
    (s.flush = true ∧ s.preText = { s.flushBlock with groupNumber := s.flushBlock.groupNumber + 1, flush := false }) ∨
    (s.flush = false ∧ s.preText = s) := by
  unfold BSt.preText
  cases s.flush <;> simp

theorem preText_flushed (s : BSt) :
    Flushed s s.flush [] [] s.preText ∧ s.preText.stack = s.stack ∧ s.preText.flush = false := by
  rcases preText_cases s with ⟨hf, h⟩ | ⟨hf, h⟩ <;> rw [h, hf]
  · exact ⟨(flushBlock_flushed s).1.congr rfl rfl rfl, (flushBlock_flushed s).2.1, rfl⟩
  · exact ⟨.refl s false, rfl, rfl⟩

theorem bstep_shape (s : BSt) (e : BEv) : Flushed s (flushes s e) (nodeIds [e]) (evNonText [e]) (bstep s e) := by
  cases e with
  | skipNode => exact (Flushed.refl s _).congr rfl rfl rfl
  | startNode a =>
    exact (Flushed.refl s _).congr (by simp only [bstep]; split <;> rfl) (by simp only [bstep]; split <;> rfl) rfl
  | endNode =>
    simp only [bstep]
    split
    · exact (Flushed.refl s _).congr rfl rfl rfl
    · rename_i a rest hs
      by_cases hc : (s.flush || a.flush) = true
      · rw [if_pos hc, show flushes s .endNode = true by simpa [flushes, hs] using hc]
        -- the flush is that of a state that differs from `s` in `tagLevel` only
        have hF : Flushed s true [] [] _ :=
          (flushBlock_flushed { s with tagLevel := if a.changesTagLevel then s.tagLevel - 1 else s.tagLevel }).1
        split <;> exact hF.congr rfl rfl rfl
      · rw [if_neg hc]
        split <;> exact (Flushed.refl s _).congr rfl rfl rfl
  | addText id em b w =>
    have ht := TB.addText_nodes s.preText.tb id em b w s.preText.tagLevel
    exact (preText_flushed s).1.then (by simp only [bstep, ht.2, nodeIds, List.append_nil]) ht.1
      (by simp [bstep, evNonText])
  | addBr id =>
    exact (preText_flushed s).1.then (by simp [bstep, TB.addBr, nodeIds]) rfl (by simp [bstep, evNonText])
  | addTable | addTag | addEmbed => exact (flushBlock_flushed s).1.then (by simp [bstep, nodeIds]) rfl rfl

/-- the two fields `Flushed` is silent about -/
theorem bstep_frame (s : BSt) (e : BEv) :
    (bstep s e).stack = (match e with
      | .startNode a => a :: s.stack | .endNode => s.stack.tail | _ => s.stack) ∧
    (bstep s e).flush = (match e with
      | .skipNode => true | .startNode a => s.flush || a.flush | .addText .. | .addBr _ => false | _ => s.flush) := by
  cases e with
  | endNode =>
    cases hs : s.stack with
    | nil => simp [bstep, hs]
    | cons a rest =>
      simp only [bstep, hs]
      refine ⟨rfl, ?_⟩
      by_cases hc : (s.flush || a.flush) = true
      · rw [if_pos hc]; cases a.isAnchor <;> exact (flushBlock_flushed _).2.2
      · rw [if_neg hc]; cases a.isAnchor <;> rfl
  | addText | addBr => exact (preText_flushed s).2
  | addTable | addTag | addEmbed => exact (flushBlock_flushed s).2
  | _ => exact ⟨rfl, rfl⟩

theorem textsOf_evNonText (evs : List BEv) : textsOf (evNonText evs) = [] := by
  fun_induction evNonText evs <;> simp [textsOf, *]

theorem nonTextOf_evNonText (evs : List BEv) : nonTextOf (evNonText evs) = evNonText evs := by
  fun_induction evNonText evs <;> simp [nonTextOf, *]

theorem nonTextOf_append (a b : List DocEl) : nonTextOf (a ++ b) = nonTextOf a ++ nonTextOf b := by
  fun_induction nonTextOf a <;> simp [nonTextOf, *]

theorem Flushed.nonText {s s' : BSt} {fl : Bool} {ids : List Nat} {els : List DocEl} (h : Flushed s fl ids els s') :
    nonTextOf s'.out = nonTextOf s.out ++ nonTextOf els := by
  rcases h.2 with ⟨_, ho⟩ | ⟨_, _, _, ho | ⟨t, ho, _⟩⟩ <;> rw [ho, nonTextOf_append]
  rfl

theorem BInv.step (s : BSt) (e : BEv) (h : BInv s) : BInv (bstep s e) :=
  h.of_flushed (bstep_shape s e) (textsOf_evNonText [e])

theorem bstep_nodes (s : BSt) (e : BEv) : (bstep s e).tb.nodes = s.tb.nodes ++ nodeIds [e] :=
  (bstep_shape s e).1

theorem bstep_nonText (s : BSt) (e : BEv) : nonTextOf (bstep s e).out = nonTextOf s.out ++ evNonText [e] := by
  rw [(bstep_shape s e).nonText, nonTextOf_evNonText]

theorem brun_nil (s : BSt) : brun s [] = s := rfl
theorem brun_cons (s : BSt) (e : BEv) (r : List BEv) : brun s (e :: r) = brun (bstep s e) r := rfl
theorem brun_append (s : BSt) (a b : List BEv) : brun s (a ++ b) = brun (brun s a) b := List.foldl_append

theorem brun_hom {α : Type} (m : BSt → List α) (μ : List BEv → List α)
    (hμ : ∀ a b, μ (a ++ b) = μ a ++ μ b) (h0 : μ [] = [])
    (step : ∀ s e, m (bstep s e) = m s ++ μ [e]) (s : BSt) (evs : List BEv) :
    m (brun s evs) = m s ++ μ evs := by
  induction evs generalizing s with
  | nil => rw [brun_nil, h0, List.append_nil]
  | cons e es ih => rw [brun_cons, ih, step, List.append_assoc, ← hμ]; rfl

theorem BInv.run (s : BSt) (evs : List BEv) (h : BInv s) : BInv (brun s evs) := by
  induction evs generalizing s with
  | nil => exact h
  | cons e es ih => exact ih _ (BInv.step s e h)

theorem brun_nodes (s : BSt) (evs : List BEv) : (brun s evs).tb.nodes = s.tb.nodes ++ nodeIds evs :=
  brun_hom (·.tb.nodes) nodeIds nodeIds_append rfl bstep_nodes s evs

theorem brun_nonText (s : BSt) (evs : List BEv) : nonTextOf (brun s evs).out = nonTextOf s.out ++ evNonText evs :=
  brun_hom (fun s => nonTextOf s.out) evNonText evNonText_append rfl bstep_nonText s evs

/-- **Windows partition.** For every event sequence the Text elements of the built document
have non-empty, increasing, pairwise disjoint windows that are slices of the node sequence the
events appended; so their concatenation is a sublist of that sequence: no node is in two
Text elements and the order of nodes is never changed. -/
theorem builder_windows (evs : List BEv) :
    Slices (nodeIds evs) 0 (textsOf (buildDoc evs)) ∧
    (((textsOf (buildDoc evs)).map (·.win)).flatten).Sublist (nodeIds evs) := by
  have hs : Slices (nodeIds evs) 0 (textsOf (buildDoc evs)) := by
    have := (BInv.flushBlock _ (BInv.run {} evs BInv.init)).slices
    rwa [(flushBlock_flushed _).1.1, brun_nodes, List.append_nil] at this
  exact ⟨hs, by simpa using Slices.sublist _ 0 _ hs⟩

end Distill
