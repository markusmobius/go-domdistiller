import Distill.Model.Convert
import Distill.Proofs.Builder  -- for `nodeIds`, the ids a list of events appends to the builder's node list
namespace Distill

/-! ## The walk: one induction principle

`walkNode` is generic in the visitor, and so is the way every theorem about it goes: a property
of (node, events) that holds of what a text node and an unwalked element send, survives framing
the children's events by `pre … post`, and a companion for child lists that survives `++`. -/

structure WalkInv (visit : Visitor) (txt : Nat → String → BEv)
    (P : Node → List BEv → Prop) (PL : List Node → List BEv → Prop) : Prop where
  text : ∀ i d, P (.text i d) [txt i d]
  other : ∀ i k, P (.other i k) []
  elem : ∀ anc hp i t a ks, match visit anc hp i t a ks with
    | .skip => P (.elem i t a ks) []
    | .emit evs => P (.elem i t a ks) evs
    | .descend pre post _ => ∀ mid, PL ks mid → P (.elem i t a ks) (pre ++ mid ++ post)
  nil : PL [] []
  cons : ∀ {k ks a b}, P k a → PL ks b → PL (k :: ks) (a ++ b)

mutual
theorem WalkInv.node {visit txt P PL} (h : WalkInv visit txt P PL) (anc : List String) (hp : Bool) :
    (n : Node) → P n (walkNode visit txt anc hp n)
  | .text i d => by rw [walkNode]; exact h.text i d
  | .other i k => by rw [walkNode]; exact h.other i k
  | .elem i t a ks => by
    have he := h.elem anc hp i t a ks
    rw [walkNode]
    generalize visit anc hp i t a ks = v at he ⊢
    cases v with
    | skip => exact he
    | emit evs => exact he
    | descend pre post t' => exact he _ (h.kids _ ks)
theorem WalkInv.kids {visit txt P PL} (h : WalkInv visit txt P PL) (anc : List String) :
    (ks : List Node) → PL ks (walkKids visit txt anc ks)
  | [] => by rw [walkKids]; exact h.nil
  | k :: ks => by rw [walkKids]; exact h.cons (h.node anc true k) (h.kids anc ks)
end

def skipTag (tag : String) : Bool := skipFlushTag tag || skipSilentTag tag

/-- the start / end placeholder `withTags` puts around an element -/
def tagEv (tag : String) (start : Bool) : List BEv := if nestableTag tag then [.addTag tag start] else []

/-- what an element that is not walked sends to the builder, and when -/
inductive LeafEvs (A : CAtoms) (id : Nat) (tag : String) (kids : List Node) : List BEv → Prop
  | silent : LeafEvs A id tag kids []
  | skip : skipFlushTag tag = true → LeafEvs A id tag kids [.skipNode]
  | table : tag = "table" → LeafEvs A id tag kids [.addTable id]
  | video : tag = "video" → LeafEvs A id tag kids [.addEmbed .video id]
  | embed k : embedTag tag = true → A.embed id = .some k → LeafEvs A id tag kids [.addEmbed k.toKind id]
  | br : tag = "br" → LeafEvs A id tag kids [.addBr id]
  | jsText ti td : tag = "a" → kids = [.text ti td] → LeafEvs A id tag kids [textEv A ti td]

/-- the five nestable tags reach the last clause of the tag switch -/
theorem nestable_walked {t : String} (h : nestableTag t = true) :
    skipFlushTag t = false ∧ skipSilentTag t = false ∧ t ∉ ["a", "span", "font", "br", "table", "video"] := by
  have : t ∈ ["ul", "ol", "li", "blockquote", "pre"] := by
    simpa [nestableTag, Gen.nestableCases] using h
  simp only [List.mem_cons, List.not_mem_nil, or_false] at this
  rcases this with h | h | h | h | h <;> subst h <;> decide +kernel

theorem nestable_font : nestableTag "font" = false := by decide +kernel

theorem jsAnchorText_some {hp : Bool} {tag : String} {attrs : List Attr} {kids : List Node} {ti : Nat} {td : String}
    (h : jsAnchorText hp tag attrs kids = some (ti, td)) : tag = "a" ∧ kids = [.text ti td] := by
  unfold jsAnchorText at h
  split at h
  · rename_i hc
    split at h
    · cases h; simp at hc; exact ⟨hc.1.1, rfl⟩
    · cases h
  · cases h

theorem gateSkip_visible {cfg : CCfg} {A : CAtoms} {anc : List String} {id : Nat} {tag : String}
    {attrs : List Attr} {kids : List Node} (h : gateSkip cfg A anc id tag attrs kids = false) :
    visible A id tag attrs = true := by
  cases hv : visible A id tag attrs
  · simp [gateSkip, hv] at h
  · rfl

theorem tagSwitch_spec (A : CAtoms) (anc : List String) (hp : Bool)
    (id : Nat) (tag : String) (attrs : List Attr) (kids : List Node) :
    (∃ evs, tagSwitch A anc hp id tag attrs kids = .emit evs ∧ LeafEvs A id tag kids evs) ∨
    (∃ attrs' t', tagSwitch A anc hp id tag attrs kids =
        .descend [.startNode (actionFor A anc id t' attrs')] [.endNode] t' ∧
      skipTag tag = false ∧ tag ≠ "br" ∧ (t' = tag ∨ tag = "font" ∧ t' = "span")) := by
  unfold tagSwitch
  -- `by_cases` with `if_pos` / `if_neg`, clause by clause: `split` on this chain of `if`s is far slower
  by_cases h1 : (tag == "a" && strContains (getAttr attrs "href") "action=edit&section=") = true
  · rw [if_pos h1]; exact .inl ⟨_, rfl, .silent⟩
  rw [if_neg h1]
  cases hjs : jsAnchorText hp tag attrs kids with
  | some p =>
    obtain ⟨ht, hk⟩ := jsAnchorText_some hjs
    exact .inl ⟨_, rfl, .jsText _ _ ht hk⟩
  | none =>
    by_cases h2 : (tag == "span" && getAttr attrs "class" == "mw-editsection") = true
    · rw [if_pos h2]; exact .inl ⟨_, rfl, .silent⟩
    rw [if_neg h2]
    by_cases h3 : (tag == "font") = true
    · rw [if_pos h3]
      have ht : tag = "font" := by simpa using h3
      exact .inr ⟨_, _, rfl, by rw [ht]; decide +kernel, by rw [ht]; decide, .inr ⟨ht, rfl⟩⟩
    rw [if_neg h3]
    by_cases h4 : (tag == "br") = true
    · rw [if_pos h4]; exact .inl ⟨_, rfl, .br (by simpa using h4)⟩
    rw [if_neg h4]
    by_cases h5 : (tag == "table" && A.dataTable id) = true
    · rw [if_pos h5]; exact .inl ⟨_, rfl, .table (by simp at h5; exact h5.1)⟩
    rw [if_neg h5]
    by_cases h6 : (tag == "video") = true
    · rw [if_pos h6]; exact .inl ⟨_, rfl, .video (by simpa using h6)⟩
    rw [if_neg h6]
    by_cases h7 : skipFlushTag tag = true
    · rw [if_pos h7]; exact .inl ⟨_, rfl, .skip h7⟩
    rw [if_neg h7]
    by_cases h8 : skipSilentTag tag = true
    · rw [if_pos h8]; exact .inl ⟨_, rfl, .silent⟩
    rw [if_neg h8]
    exact .inr ⟨_, _, rfl, by simp [skipTag, h7, h8], by simpa using h4, .inl rfl⟩

/-- hence `withTags` only ever wraps a walked element -/
theorem tagSwitch_nestable (A : CAtoms) (anc : List String) (hp : Bool) (id : Nat) {tag : String}
    (attrs : List Attr) (kids : List Node) (h : nestableTag tag = true) :
    tagSwitch A anc hp id tag attrs kids = .descend [.startNode (actionFor A anc id tag attrs)] [.endNode] tag := by
  obtain ⟨h1, h2, h3⟩ := nestable_walked h
  simp only [List.mem_cons, List.not_mem_nil, or_false, not_or] at h3
  simp [tagSwitch, jsAnchorText, h1, h2, h3]

theorem withTags_plain {t : String} (h : nestableTag t = false) (v : Visit) : withTags t v = v := by
  cases v <;> simp [withTags, h]

/-- What `visitElem` answers: the gate skips the element; or it is not walked and sends `LeafEvs`; or it is
walked between placeholder + `StartNode` and placeholder + `EndNode`.  `t'` is the name the children see as
their ancestor and `attrs'` what the action is computed from: the element's own, except that `font` is
walked as `span` without attributes.  (Users: `rcases visitElem_spec … <;> rw [h] <;> simp only []`, where
`simp only []` reduces the `match` of `WalkInv.elem`.) -/
theorem visitElem_spec (cfg : CCfg) (A : CAtoms) (anc : List String) (hp : Bool)
    (id : Nat) (tag : String) (attrs : List Attr) (kids : List Node) :
    (gateSkip cfg A anc id tag attrs kids = true ∧ visitElem cfg A anc hp id tag attrs kids = .skip) ∨
    gateSkip cfg A anc id tag attrs kids = false ∧
    ((∃ evs, visitElem cfg A anc hp id tag attrs kids = .emit evs ∧ LeafEvs A id tag kids evs) ∨
     (∃ attrs' t', visitElem cfg A anc hp id tag attrs kids =
        .descend (tagEv tag true ++ [.startNode (actionFor A anc id t' attrs')]) (tagEv tag false ++ [.endNode]) t' ∧
      skipTag tag = false ∧ tag ≠ "br" ∧ (t' = tag ∨ tag = "font" ∧ t' = "span"))) := by
  unfold visitElem
  cases hg : gateSkip cfg A anc id tag attrs kids
  case true => exact .inl ⟨rfl, rfl⟩
  refine .inr ⟨rfl, ?_⟩
  rw [if_neg (by simp)]
  cases he : (if embedTag tag then A.embed id else .none) with
  | some k =>
    have : embedTag tag = true ∧ A.embed id = .some k := by
      cases ht : embedTag tag <;> simp_all
    exact .inl ⟨_, rfl, .embed k this.1 this.2⟩
  | none =>
    cases hn : nestableTag tag
    · rw [withTags_plain hn]
      simpa [tagEv, hn] using tagSwitch_spec A anc hp id tag attrs kids
    · obtain ⟨h1, h2, h3⟩ := nestable_walked hn
      rw [tagSwitch_nestable A anc hp id attrs kids hn]
      refine .inr ⟨attrs, tag, by simp [withTags, tagEv, hn], by simp [skipTag, h1, h2], fun h => h3 (by simp [h]), .inl rfl⟩

/-- ids of the text nodes handed to `AddTextNode` (non-empty ones are the ones the builder keeps;
empty ones are listed too: they are still source nodes) -/
def textEvIds : List BEv → List Nat
  | [] => []
  | .addText i _ _ _ :: r => i :: textEvIds r
  | _ :: r => textEvIds r

theorem textEvIds_append (a b : List BEv) : textEvIds (a ++ b) = textEvIds a ++ textEvIds b := by
  fun_induction textEvIds a <;> simp [textEvIds, *]

theorem textEvIds_tagEv (t : String) (b : Bool) : textEvIds (tagEv t b) = [] := by
  unfold tagEv; split <;> rfl

mutual
/-- text nodes that are not inside an element the converter must not look into: one that
`IsProbablyVisible` rejects, or one whose tag is in the converter's two skip clauses
(form controls, object/embed/applet, head, style, script, link, noscript, iframe, svg) -/
def Node.visTextIds (A : CAtoms) : Node → List Nat
  | .text i _ => [i]
  | .other _ _ => []
  | .elem i t attrs ks => if !visible A i t attrs || skipTag t then [] else visTextIdsL A ks
def visTextIdsL (A : CAtoms) : List Node → List Nat
  | [] => []
  | k :: ks => k.visTextIds A ++ visTextIdsL A ks
end

/-- **Only visible text reaches the builder, in source order.**  For every tree, every
configuration and every answer of the regexps / extractors / classifiers: the text nodes the
converter hands to the document builder are a sublist (same order, no repetition) of the text
nodes that are not inside a hidden element or a skipped kind of element. -/
theorem visible_walk (cfg : CCfg) (A : CAtoms) : WalkInv (visitElem cfg A) (textEv A)
    (fun n evs => (textEvIds evs).Sublist (n.visTextIds A))
    (fun ks evs => (textEvIds evs).Sublist (visTextIdsL A ks)) where
  text i d := .refl _
  other i k := .refl _
  nil := .refl _
  cons h1 h2 := by rw [textEvIds_append, visTextIdsL]; exact h1.append h2
  elem anc hp i t a ks := by
    rcases visitElem_spec cfg A anc hp i t a ks with ⟨_, h⟩ | ⟨hg, ⟨evs, h, hl⟩ | ⟨a', t', h, hs, _⟩⟩ <;>
      rw [h] <;> simp only []
    · exact List.nil_sublist _
    · cases hl with
      | jsText ti td ht hk =>
        subst ht hk
        have hv : visible A i "a" a = true := gateSkip_visible hg
        simp [Node.visTextIds, visTextIdsL, hv, show skipTag "a" = false by decide +kernel, textEvIds, textEv]
      | _ => exact List.nil_sublist _
    · intro mid hm
      simpa [textEvIds_append, textEvIds_tagEv, textEvIds, Node.visTextIds, gateSkip_visible hg, hs] using hm

theorem convertNode_visible_sublist (cfg : CCfg) (A : CAtoms) (anc : List String) (hp : Bool) :
    (n : Node) → (textEvIds (convertNode cfg A anc hp n)).Sublist (n.visTextIds A) :=
  (visible_walk cfg A).node anc hp
theorem convertKids_visible_sublist (cfg : CCfg) (A : CAtoms) (anc : List String) :
    (ks : List Node) → (textEvIds (convertKids cfg A anc ks)).Sublist (visTextIdsL A ks) :=
  (visible_walk cfg A).kids anc

mutual
theorem Node.visTextIds_sublist (A : CAtoms) : (n : Node) → (n.visTextIds A).Sublist n.textIds
  | .text i d => by simp [Node.visTextIds, Node.textIds]
  | .other _ _ => by simp [Node.visTextIds, Node.textIds]
  | .elem i t attrs ks => by
    simp only [Node.visTextIds, Node.textIds]
    split
    · exact List.nil_sublist _
    · exact visTextIdsL_sublist A ks
theorem visTextIdsL_sublist (A : CAtoms) : (ks : List Node) → (visTextIdsL A ks).Sublist (textIdsL ks)
  | [] => by simp [visTextIdsL, textIdsL]
  | k :: ks => by
    simp only [visTextIdsL, textIdsL]
    exact List.Sublist.append (Node.visTextIds_sublist A k) (visTextIdsL_sublist A ks)
end

/-- run the start/end tag placeholders against a stack of open names -/
def tagRun : List String → List BEv → Option (List String)
  | st, [] => some st
  | st, .addTag n true :: r => tagRun (n :: st) r
  | st, .addTag n false :: r =>
    match st with
    | m :: st' => if m == n then tagRun st' r else none
    | [] => none
  | st, .skipNode :: r => tagRun st r
  | st, .startNode _ :: r => tagRun st r
  | st, .endNode :: r => tagRun st r
  | st, .addText _ _ _ _ :: r => tagRun st r
  | st, .addBr _ :: r => tagRun st r
  | st, .addTable _ :: r => tagRun st r
  | st, .addEmbed _ _ :: r => tagRun st r

theorem tagRun_append (st : List String) (a b : List BEv) :
    tagRun st (a ++ b) = (tagRun st a).bind (fun st' => tagRun st' b) := by
  fun_induction tagRun st a <;> simp [tagRun, *]

def Balanced (evs : List BEv) : Prop := ∀ st, tagRun st evs = some st

theorem Balanced.append {a b : List BEv} (ha : Balanced a) (hb : Balanced b) : Balanced (a ++ b) :=
  fun st => by rw [tagRun_append, ha st]; exact hb st

theorem Balanced.tagged (t : String) {mid : List BEv} (h : Balanced mid) :
    Balanced (tagEv t true ++ mid ++ tagEv t false) := fun st => by
  unfold tagEv
  split
  · rw [List.append_assoc, List.singleton_append, tagRun, tagRun_append, h]; simp [tagRun]
  · simpa using h st

/-- **Tag placeholders are balanced**: for every tree and every skip decision, each start
placeholder is matched by an end placeholder of the same name, properly nested. -/
theorem balanced_walk (cfg : CCfg) (A : CAtoms) :
    WalkInv (visitElem cfg A) (textEv A) (fun _ => Balanced) (fun _ => Balanced) where
  text i d := fun _ => rfl
  other i k := fun _ => rfl
  nil := fun _ => rfl
  cons := Balanced.append
  elem anc hp i t a ks := by
    rcases visitElem_spec cfg A anc hp i t a ks with ⟨_, h⟩ | ⟨_, ⟨evs, h, hl⟩ | ⟨a', t', h, _⟩⟩ <;>
      rw [h] <;> simp only []
    · exact fun _ => rfl
    · cases hl <;> exact fun _ => rfl
    · intro mid hm
      have : Balanced ([.startNode (actionFor A anc i t' a')] ++ mid) := Balanced.append (fun _ => rfl) hm
      simpa using (Balanced.tagged t this).append (b := [.endNode]) fun _ => rfl

theorem convertNode_balanced (cfg : CCfg) (A : CAtoms) (anc : List String) (hp : Bool) :
    (n : Node) → (st : List String) → tagRun st (convertNode cfg A anc hp n) = some st :=
  (balanced_walk cfg A).node anc hp
theorem convertKids_balanced (cfg : CCfg) (A : CAtoms) (anc : List String) :
    (ks : List Node) → (st : List String) → tagRun st (convertKids cfg A anc ks) = some st :=
  (balanced_walk cfg A).kids anc

mutual
def Node.brTextIds : Node → List Nat
  | .text i _ => [i]
  | .other _ _ => []
  | .elem i t _ ks => (if t == "br" then [i] else []) ++ brTextIdsL ks
def brTextIdsL : List Node → List Nat
  | [] => []
  | k :: ks => k.brTextIds ++ brTextIdsL ks
end

theorem nodeIds_tagEv (t : String) (b : Bool) : nodeIds (tagEv t b) = [] := by
  unfold tagEv; split <;> rfl

/-- **Node ids in source order**: what the events append to the builder's node list is a sublist of the
text nodes and `br` elements in document order. -/
theorem nodeIds_walk (cfg : CCfg) (A : CAtoms) : WalkInv (visitElem cfg A) (textEv A)
    (fun n evs => (nodeIds evs).Sublist n.brTextIds) (fun ks evs => (nodeIds evs).Sublist (brTextIdsL ks)) where
  text i d := by simp only [nodeIds, textEv, Node.brTextIds]; split <;> simp
  other i k := .refl _
  nil := .refl _
  cons h1 h2 := by rw [nodeIds_append, brTextIdsL]; exact h1.append h2
  elem anc hp i t a ks := by
    rcases visitElem_spec cfg A anc hp i t a ks with ⟨_, h⟩ | ⟨_, ⟨evs, h, hl⟩ | ⟨a', t', h, _, hb, _⟩⟩ <;>
      rw [h] <;> simp only []
    · exact List.nil_sublist _
    · cases hl with
      | br ht => simp [ht, nodeIds, Node.brTextIds]
      | jsText ti td ht hk => subst hk; simp only [nodeIds, textEv, Node.brTextIds, brTextIdsL]; split <;> simp
      | _ => exact List.nil_sublist _
    · intro mid hm
      simpa [nodeIds_append, nodeIds_tagEv, nodeIds, Node.brTextIds, hb] using hm

theorem convertNode_nodeIds_sublist (cfg : CCfg) (A : CAtoms) (anc : List String) (hp : Bool) :
    (n : Node) → (nodeIds (convertNode cfg A anc hp n)).Sublist n.brTextIds :=
  (nodeIds_walk cfg A).node anc hp
theorem convertKids_nodeIds_sublist (cfg : CCfg) (A : CAtoms) (anc : List String) :
    (ks : List Node) → (nodeIds (convertKids cfg A anc ks)).Sublist (brTextIdsL ks) :=
  (nodeIds_walk cfg A).kids anc

end Distill
