/-
  Proofs about the article-extractor model (`Model/Filters.lean`).

  * `Closed G`: a predicate on blocks that survives `MergeNext` and every modification that keeps
    the members, the word count and an existing TITLE label.  Instances: `W`, "the block holds an
    initial block wholly or not at all" (C03); `Wd`, "the block's word count is the sum over its
    members" (C09); `Tl`, "a block that holds a title-matched initial block carries TITLE" (C15).
  * `Made l l'`: `l'` is made of the blocks of `l` — re-flagged (`Mod`), merged, reordered or
    dropped, none duplicated (`KeepsLe`: every `Closed` predicate carries over, no member is counted
    more often).  Its length bound is what keeps a DOM answer per block along a pipeline.  Every
    filter is shown to be `Made` once, from the rules of `namespace Made`; nothing after the rules
    looks inside `KeepsLe`.
  * every pipeline of filters, in any order and with any settings, is total and `Made` (`run_made`):
    SimilarSiblingContent never indexes out of range as long as there is a DOM answer per block
    (`l.length ≤ A.length`).  Its `Option` code is taken apart by one rule per construct (`Ok.bind`,
    `Ok.ite`, `Ok.get`) under the loop invariant `Inv`.
-/
import Distill.Model.Filters
import Distill.Proofs.Basics
namespace Distill.Flt

structure Closed (G : TB → Prop) : Prop where
  merge : ∀ a b, G a → G b → G (a.merge b)
  modify : ∀ a a', a'.members = a.members → a'.numWords = a.numWords →
    (a.labels.title = true → a'.labels.title = true) → G a → G a'

def All (G : TB → Prop) (l : List TB) : Prop := ∀ b ∈ l, G b

theorem All.append {G l1 l2} (h1 : All G l1) (h2 : All G l2) : All G (l1 ++ l2) :=
  List.forall_mem_append.mpr ⟨h1, h2⟩
theorem All.of_reverse {G l} (h : All G l.reverse) : All G l := fun b hb => h b (List.mem_reverse.mpr hb)

def allMembers (l : List TB) : List Nat := l.flatMap (·.members)

@[simp] theorem allMembers_nil : allMembers [] = [] := rfl
@[simp] theorem allMembers_cons (a l) : allMembers (a :: l) = a.members ++ allMembers l := by
  simp [allMembers]
@[simp] theorem allMembers_append (l1 l2) : allMembers (l1 ++ l2) = allMembers l1 ++ allMembers l2 := by
  simp [allMembers]

theorem mem_allMembers {l : List TB} {f : TB} {i : Nat} (hf : f ∈ l) (hi : i ∈ f.members) : i ∈ allMembers l :=
  List.mem_flatMap.mpr ⟨f, hf, hi⟩

def cnt (l : List TB) (x : Nat) : Nat := (allMembers l).count x

@[simp] theorem cnt_nil (x) : cnt [] x = 0 := rfl
@[simp] theorem cnt_cons (a l x) : cnt (a :: l) x = a.members.count x + cnt l x := by simp [cnt]
@[simp] theorem cnt_append (l1 l2 x) : cnt (l1 ++ l2) x = cnt l1 x + cnt l2 x := by simp [cnt]

@[simp] theorem merge_members (a b : TB) : (a.merge b).members = a.members ++ b.members := rfl
@[simp] theorem merge_numWords (a b : TB) : (a.merge b).numWords = a.numWords + b.numWords := rfl
@[simp] theorem merge_title (a b : TB) : (a.merge b).labels.title = (a.labels.title || b.labels.title) := rfl

def KeepsLe (bs bs' : List TB) : Prop :=
  (∀ G, Closed G → All G bs → All G bs') ∧ ∀ x, cnt bs' x ≤ cnt bs x

theorem KeepsLe.refl (bs) : KeepsLe bs bs := ⟨fun _ _ h => h, fun _ => Nat.le_refl _⟩

def Mod (a a' : TB) : Prop :=
  a'.members = a.members ∧ a'.numWords = a.numWords ∧ (a.labels.title = true → a'.labels.title = true)

theorem Mod.refl (a : TB) : Mod a a := ⟨rfl, rfl, id⟩

def Made (l l' : List TB) : Prop := KeepsLe l l' ∧ l'.length ≤ l.length

namespace Made

theorem all {l l' G} (h : Made l l') (hG : Closed G) : All G l → All G l' := h.1.1 G hG
theorem cnt_le {l l'} (h : Made l l') (x : Nat) : cnt l' x ≤ cnt l x := h.1.2 x

theorem refl (l) : Made l l := ⟨.refl l, Nat.le_refl _⟩

theorem trans {a b c} (h1 : Made a b) (h2 : Made b c) : Made a c :=
  ⟨⟨fun _ hG h => h2.all hG (h1.all hG h), fun x => Nat.le_trans (h2.cnt_le x) (h1.cnt_le x)⟩,
   Nat.le_trans h2.2 h1.2⟩

theorem append {l1 l1' l2 l2'} (h1 : Made l1 l1') (h2 : Made l2 l2') : Made (l1 ++ l2) (l1' ++ l2') :=
  ⟨⟨fun _ hG h => have h := List.forall_mem_append.mp h; (h1.all hG h.1).append (h2.all hG h.2),
    fun x => by rw [cnt_append, cnt_append]; exact Nat.add_le_add (h1.cnt_le x) (h2.cnt_le x)⟩,
   by rw [List.length_append, List.length_append]; exact Nat.add_le_add h1.2 h2.2⟩

theorem perm {l l'} (h : l.Perm l') : Made l l' :=
  ⟨⟨fun _ _ hl b hb => hl b (h.mem_iff.mpr hb), fun x => Nat.le_of_eq ((h.flatMap_right _).count_eq x).symm⟩,
   Nat.le_of_eq h.length_eq.symm⟩

theorem reverse (l) : Made l l.reverse := perm (List.reverse_perm l).symm

theorem mod {a a'} (h : Mod a a') : Made [a] [a'] :=
  ⟨⟨fun _ hG hl => List.forall_mem_singleton.mpr (hG.modify a a' h.1 h.2.1 h.2.2 (List.forall_mem_singleton.mp hl)),
    fun x => by simp [h.1]⟩, Nat.le_refl _⟩

theorem cons {a a' l l'} (h : Mod a a') (ht : Made l l') : Made (a :: l) (a' :: l') := (mod h).append ht

theorem merge (a b : TB) : Made [a, b] [a.merge b] :=
  ⟨⟨fun _ hG hl => List.forall_mem_singleton.mpr (hG.merge a b (hl a (by simp)) (hl b (by simp))),
    fun x => by simp⟩, by simp⟩

theorem drop (l) : Made l [] := ⟨⟨fun _ _ _ _ h => (nomatch h), fun _ => Nat.zero_le _⟩, Nat.zero_le _⟩

end Made

theorem Made.map (f : TB → TB) (hf : ∀ a, Mod a (f a)) (l) : Made l (l.map f) := by
  induction l with
  | nil => exact .refl _
  | cons a l ih => exact .cons (hf a) ih

/-- around one index: what stands before it, the block at it, what stands after it -/
theorem Made.around {l l1 l2 : List TB} {i : Nat} {b b' : TB} (h : l[i]? = some b)
    (h1 : Made (l.take i) l1) (hm : Mod b b') (h2 : Made (l.drop (i + 1)) l2) : Made l (l1 ++ b' :: l2) := by
  obtain ⟨hi, rfl⟩ := List.getElem?_eq_some_iff.mp h
  conv => lhs; rw [← List.take_append_drop i l, List.drop_eq_getElem_cons hi]
  exact h1.append (.cons hm h2)

theorem terminating_made (A l) : Made l (terminating A l).1 :=
  Made.map _ (fun a => by split <;> simp [Mod]) l

theorem titleMatch_made (A l) : Made l (titleMatch A l).1 :=
  Made.map _ (fun a => by split <;> simp [Mod]) l

theorem labelToBoilerplate_made (l) : Made l (labelToBoilerplate l).1 :=
  Made.map _ (fun a => by split <;> simp [Mod]) l

theorem largeBlock_made (l) : Made l (largeBlock l).1 := by
  unfold largeBlock largeBlockAt
  split
  · exact .refl _
  · exact Made.map _ (fun a => by split <;> simp [Mod]) l

theorem numWordsGo_made (prev l) : Made l (numWordsGo prev l).1 := by
  induction l generalizing prev with
  | nil => exact .refl _
  | cons c rest ih => exact .cons ⟨rfl, rfl, id⟩ (ih (some c))

theorem listAtEndGo_made (tl l) : Made l (listAtEndGo tl l).1 := by
  induction l generalizing tl with
  | nil => exact .refl _
  | cons b rest ih =>
    simp only [listAtEndGo]
    split
    · exact .cons (.refl b) (ih _)
    · split
      · exact .cons ⟨rfl, rfl, id⟩ (ih _)
      · exact .cons (.refl b) (ih _)

theorem mapIdxFrom_made (g : Nat → TB → TB) (hg : ∀ i a, Mod a (g i a)) (i l) : Made l (mapIdxFrom g i l) := by
  fun_induction mapIdxFrom g i l with
  | case1 => exact .refl _
  | case2 i b rest ih => exact .cons (hg i b) ih

theorem mapIdxFrom_length (g : Nat → TB → TB) (i l) : (mapIdxFrom g i l).length = l.length := by
  fun_induction mapIdxFrom g i l <;> simp [*]

theorem expandTitle_made (l) : Made l (expandTitle l).1 := by
  unfold expandTitle
  split
  · split
    · exact .refl _
    · exact mapIdxFrom_made _ (fun i a => by split <;> simp [Mod]) 0 l
  · exact .refl _

theorem markLargest_made (idx l) : Made l (markLargest idx l) :=
  mapIdxFrom_made _ (fun i a => by split <;> simp [Mod]) 0 l

theorem expandGo_made (A mine next gp l) : Made l (expandGo A mine next gp l) := by
  fun_induction expandGo A mine next gp l with
  | case1 => exact .refl _
  | case2 gp c rest _ _ ih => exact .cons ⟨rfl, rfl, id⟩ ih
  | case3 gp c rest _ _ ih => exact .cons (.refl c) ih

theorem keepLargest_made (e A l) : Made l (keepLargest e A l).1 := by
  unfold keepLargest
  split
  · exact .refl _
  · refine (markLargest_made ((largestGo l 0 none).map (·.1)) l).trans ?_
    dsimp only
    -- `match best`, `if expand`, `match l1[idx]?`; only where all three succeed does anything change
    split
    · split
      · split
        · -- the blocks before the largest are walked back to front
          exact .around ‹_› ((Made.reverse _).trans ((expandGo_made ..).trans (.reverse _))) (.refl _)
            (expandGo_made ..)
        · exact .refl _
      · exact .refl _
    · exact .refl _

theorem Made.sublist {l l' : List TB} (h : l'.Sublist l) : Made l l' := by
  induction h with
  | slnil => exact .refl _
  | cons a _ ih => exact (Made.drop [a]).append ih
  | cons_cons a _ ih => exact .cons (.refl a) ih

theorem boilerplateBlock_made (k l) : Made l (boilerplateBlock k l).1 := .sublist List.filter_sublist

/-- the blocks a fusion state holds; the order is of no account to `Made` -/
def Fuse.bag (s : Fuse) : List TB := s.prev :: (s.skipped ++ s.done)

theorem Fuse.bag_perm_result (s : Fuse) : s.bag.Perm s.result :=
  calc List.Perm (s.prev :: (s.skipped ++ s.done)) (s.prev :: (s.done.reverse ++ s.skipped.reverse)) :=
        .cons _ (List.perm_append_comm.trans ((List.reverse_perm _).symm.append (List.reverse_perm _).symm))
    List.Perm _ (s.done.reverse ++ s.prev :: s.skipped.reverse) := List.perm_middle.symm

theorem Made.swap (a b l) : Made (a :: b :: l) (b :: a :: l) := .perm (.swap b a l)
theorem Made.middle (a l1 l2) : Made (a :: (l1 ++ l2)) (l1 ++ a :: l2) := .perm List.perm_middle.symm

theorem Made.bag_ite {l : List TB} {c : Prop} [Decidable c] {s s' : Fuse} (h : Made l s.bag) (h' : Made l s'.bag) :
    Made l (if c then s else s').bag :=
  ite_both (P := fun r : Fuse => Made l r.bag) h h'

theorem hfStep_made (s b) : Made (b :: s.bag) (hfStep s b).bag := by
  have move : Made (b :: s.bag) (b :: (s.skipped ++ s.prev :: s.done)) := .cons (.refl b) (.middle ..)
  -- one `bag_ite` per `if` of `hfStep`, in its order
  refine .bag_ite move (.bag_ite move (.bag_ite move (.bag_ite ?merged (.bag_ite ?demoted move))))
  case merged =>
    exact (Made.swap ..).trans (((Made.merge s.prev b).append (.refl _)).trans (.cons ⟨rfl, rfl, id⟩ (.refl _)))
  case demoted =>
    exact .cons (.refl b) ((Made.middle ..).trans (.append (.refl _) (.cons ⟨rfl, rfl, id⟩ (.refl _))))

theorem pfStep_made (post s b) : Made (b :: s.bag) (pfStep post s b).bag := by
  have move : Made (b :: s.bag) (b :: (s.skipped ++ s.prev :: s.done)) := .cons (.refl b) (.middle ..)
  -- as in `hfStep_made`: one `bag_ite` per `if` of `pfStep`
  refine .bag_ite move (.bag_ite (.bag_ite ?merged (.swap ..)) move)
  case merged => exact (Made.swap ..).trans (.append (.merge s.prev b) (.refl _))

theorem foldl_fuse_made (step : Fuse → TB → Fuse) (hstep : ∀ s b, Made (b :: s.bag) (step s b).bag) (l s) :
    Made (s.bag ++ l) (l.foldl step s).result := by
  induction l generalizing s with
  | nil => rw [List.append_nil]; exact .perm s.bag_perm_result
  | cons b l ih => exact (Made.perm List.perm_middle).trans (((hstep s b).append (.refl l)).trans (ih _))

theorem headingFusion_made : ∀ l, Made l (headingFusion l).1
  | [] | [_] => .refl _
  | a :: b :: rest => foldl_fuse_made hfStep hfStep_made (b :: rest) ⟨[], a, [], false⟩

theorem proximityFusion_made (post) : ∀ l, Made l (proximityFusion post l).1
  | [] | [_] => .refl _
  | a :: b :: rest => foldl_fuse_made (pfStep post) (pfStep_made post) (b :: rest) ⟨[], a, [], false⟩

/-! ### SimilarSiblingContent: only flags change, and no index is out of range -/

/-- `o` succeeds, with a value that satisfies `Q`; the rules below are those of a Hoare logic (total correctness)
for straight-line `Option` code -/
def Ok {α} (o : Option α) (Q : α → Prop) : Prop := ∃ a, o = some a ∧ Q a

theorem Ok.pure {α} {a : α} {Q : α → Prop} (h : Q a) : Ok (some a) Q := ⟨a, rfl, h⟩

theorem Ok.bind {α β} {o : Option α} {f : α → Option β} {Q : α → Prop} {R : β → Prop}
    (h : Ok o Q) (hf : ∀ a, Q a → Ok (f a) R) : Ok (o >>= f) R := by
  obtain ⟨a, rfl, ha⟩ := h
  exact hf a ha

theorem Ok.mono {α} {o : Option α} {Q R : α → Prop} (h : Ok o Q) (hQR : ∀ a, Q a → R a) : Ok o R := by
  obtain ⟨a, rfl, ha⟩ := h
  exact ⟨a, rfl, hQR a ha⟩

theorem Ok.of_eq {α} {o : Option α} {Q : α → Prop} {a : α} (h : Ok o Q) (e : o = some a) : Q a := by
  obtain ⟨a', e', ha⟩ := h
  cases e.symm.trans e'
  exact ha

theorem Ok.ite {α} {c : Prop} [Decidable c] {o o' : Option α} {Q : α → Prop} (h : Ok o Q) (h' : Ok o' Q) :
    Ok (if c then o else o') Q :=
  ite_both (P := (Ok · Q)) h h'

theorem Ok.get {α} {l : List α} {i : Nat} (h : i < l.length) : Ok l[i]? (fun a => l[i]? = some a) :=
  ⟨l[i], List.getElem?_eq_getElem h, List.getElem?_eq_getElem h⟩

theorem Made.set {l : List TB} {i : Nat} {b b' : TB} (h : l[i]? = some b) (hm : Mod b b') :
    Made l (l.set i b') := by
  rw [List.set_eq_take_append_cons_drop, if_pos (List.getElem?_eq_some_iff.mp h).1]
  exact .around h (.refl _) hm (.refl _)

theorem setContent_ok {l0 bs : List TB} {i : Nat} (hm : Made l0 bs) (hl : bs.length = l0.length) (hi : i < l0.length) :
    Ok (setContent bs i) (fun bs' => Made l0 bs' ∧ bs'.length = l0.length) :=
  (Ok.get (hl ▸ hi)).bind fun _ h => .pure ⟨hm.trans (.set h ⟨rfl, rfl, id⟩), List.length_set.trans hl⟩

theorem similar_ok (p : SSP) {A : Atoms} {n i j : Nat} (hA : n ≤ A.length) (hi : i < n) (hj : j < n) :
    Ok (similar p A i j) (fun _ => True) :=
  (Ok.get (Nat.lt_of_lt_of_le hi hA)).bind fun _ _ => (Ok.get (Nat.lt_of_lt_of_le hj hA)).bind fun _ _ =>
    .ite (.pure trivial) (.pure trivial)

/-- `arr` is one of the two index arrays (`SS.good`, `SS.bad`) over `n` blocks, in use up to `e`.  Where its
window begins (`SS.gb`, `SS.bb`) is of no account between iterations: the inner loops keep it behind their index -/
structure Filled (n : Nat) (arr : List Nat) (e : Nat) : Prop where
  len : arr.length = n
  en : e ≤ n
  lt : ∀ v ∈ arr, v < n

namespace Filled
variable {n : Nat} {arr : List Nat} {e : Nat}

theorem init (n : Nat) : Filled n (List.replicate n 0) 0 :=
  ⟨List.length_replicate, Nat.zero_le n, fun v hv => by have := List.mem_replicate.mp hv; omega⟩

theorem get (h : Filled n arr e) {j : Nat} (hj : j < e) : Ok arr[j]? (· < n) :=
  (Ok.get (h.len ▸ Nat.lt_of_lt_of_le hj h.en)).mono fun v hv => h.lt v (List.mem_of_getElem? hv)

theorem set (h : Filled n arr e) (j : Nat) {v : Nat} (hv : v < n) : Filled n (arr.set j v) e :=
  { h with
    len := List.length_set.trans h.len
    lt := fun w hw => (List.mem_or_eq_of_mem_set hw).elim (h.lt w) (· ▸ hv) }

theorem push (h : Filled n arr e) (he : e < n) {v : Nat} (hv : v < n) : Filled n (arr.set e v) (e + 1) :=
  { h.set e hv with en := he }

end Filled

/-- the invariant of `ssIter` before block `i`.  `sum`: at most one index per block seen so far has been
pushed, so `pushGood` / `pushBad` find room -/
structure Inv (l0 : List TB) (i : Nat) (s : SS) : Prop where
  made : Made l0 s.blocks
  lb : s.blocks.length = l0.length
  good : Filled l0.length s.good s.ge
  bad : Filled l0.length s.bad s.be
  sum : s.ge + s.be ≤ i

theorem Inv.next {l0 i s} (h : Inv l0 i s) : Inv l0 (i + 1) s := { h with sum := Nat.le_succ_of_le h.sum }

theorem loopA_ok (p : SSP) (A : Atoms) (l0 : List TB) (i m : Nat) (hA : l0.length ≤ A.length) (hi : i < l0.length) :
    ∀ k j s, Inv l0 m s → s.bb ≤ j → k ≤ s.be - j → Ok (loopA p A i k j s) (Inv l0 m)
  | 0, _, _, hs, _, _ => .pure hs
  | k+1, j, s, hs, hbj, hjk => by
    have ih := loopA_ok p A l0 i m hA hi k (j+1)
    have hj : j < s.be := Nat.lt_of_sub_pos (Nat.zero_lt_of_lt hjk)
    have hjk' : k ≤ s.be - (j + 1) := Nat.le_sub_one_of_lt hjk
    rw [loopA]
    refine (hs.bad.get hj).bind fun b hb => .ite ?_ ?_
    · split
      · exact ih _ { hs with } (Nat.succ_le_succ hbj) hjk'  -- `Inv` does not speak of `bb`
      · exact ih s hs (Nat.le_succ_of_le hbj) hjk'
    · refine (similar_ok p hA hi hb).bind fun _ _ => .ite ?_ (ih s hs (Nat.le_succ_of_le hbj) hjk')
      refine (setContent_ok hs.made hs.lb hb).bind fun bs ⟨hm, hl⟩ =>
        (hs.bad.get (Nat.lt_of_le_of_lt hbj hj)).bind fun v hv => ?_
      exact ih _ { hs with made := hm, lb := hl, bad := hs.bad.set j hv } (Nat.succ_le_succ hbj) hjk'

theorem loopB_ok (p : SSP) (A : Atoms) (l0 : List TB) (i m : Nat) (hA : l0.length ≤ A.length) (hi : i < l0.length) :
    ∀ k j s, Inv l0 m s → s.gb ≤ j → k ≤ s.ge - j → Ok (loopB p A i k j s) (fun r => Inv l0 m r.1)
  | 0, _, _, hs, _, _ => .pure hs
  | k+1, j, s, hs, hgj, hjk => by
    have ih := loopB_ok p A l0 i m hA hi k (j+1)
    have hj : j < s.ge := Nat.lt_of_sub_pos (Nat.zero_lt_of_lt hjk)
    have hjk' : k ≤ s.ge - (j + 1) := Nat.le_sub_one_of_lt hjk
    rw [loopB]
    refine (hs.good.get hj).bind fun g hg => .ite ?_ ?_
    · split
      · exact ih _ { hs with } (Nat.succ_le_succ hgj) hjk'
      · exact ih s hs (Nat.le_succ_of_le hgj) hjk'
    · refine (similar_ok p hA hi hg).bind fun _ _ => .ite ?_ (ih s hs (Nat.le_succ_of_le hgj) hjk')
      refine (setContent_ok hs.made hs.lb hi).bind fun bs ⟨hm, hl⟩ =>
        (hs.good.get (Nat.lt_of_le_of_lt hgj hj)).bind fun v hv => ?_
      exact .pure { hs with made := hm, lb := hl, good := hs.good.set j hv }

theorem pushGood_ok {l0 s i} (hs : Inv l0 i s) (hi : i < l0.length) : Ok (pushGood s i) (Inv l0 (i + 1)) := by
  have hge : s.ge < l0.length := by have := hs.sum; omega
  rw [pushGood, if_pos (hs.good.len ▸ hge)]
  exact .pure { hs with good := hs.good.push hge hi, sum := by have := hs.sum; show s.ge + 1 + s.be ≤ i + 1; omega }

theorem pushBad_ok {l0 s i} (hs : Inv l0 i s) (hi : i < l0.length) : Ok (pushBad s i) (Inv l0 (i + 1)) := by
  have hbe : s.be < l0.length := by have := hs.sum; omega
  rw [pushBad, if_pos (hs.bad.len ▸ hbe)]
  exact .pure { hs with bad := hs.bad.push hbe hi, sum := Nat.succ_le_succ hs.sum }

theorem ssIter_ok (p : SSP) (A : Atoms) (l0 : List TB) (hA : l0.length ≤ A.length) :
    ∀ k i s, Inv l0 i s → i + k = l0.length → Ok (ssIter p A k i s) (fun s' => Made l0 s'.blocks)
  | 0, _, _, hs, _ => .pure hs.made
  | k+1, i, s, hs, hik => by
    have hi : i < l0.length := by omega
    have ih := fun s hs => ssIter_ok p A l0 hA k (i+1) s hs (by omega)
    rw [ssIter]
    refine (Ok.get (hs.lb ▸ hi)).bind fun b _ => .ite ?_ (.ite ?_ (.ite ?_ (ih s hs.next)))
    · exact ih _ { hs.next with }
    · refine (pushGood_ok hs hi).bind fun s1 hs1 => ?_
      exact (loopA_ok p A l0 i _ hA hi _ _ s1 hs1 (Nat.le_refl _) (Nat.le_refl _)).bind ih
    · exact (loopB_ok p A l0 i _ hA hi _ _ s hs (Nat.le_refl _) (Nat.le_refl _)).bind
        fun (s1, _) hs1 => .ite ((pushGood_ok hs1 hi).bind ih) ((pushBad_ok hs1 hi).bind ih)

theorem similarSibling_made (p : SSP) (A : Atoms) (l : List TB) (hA : l.length ≤ A.length) :
    Ok (similarSibling p A l) (fun r => Made l r.1) := by
  unfold similarSibling
  exact .ite (.pure (.refl l)) <|
    (ssIter_ok p A l hA l.length 0 _ ⟨.refl l, rfl, .init _, .init _, Nat.le_refl _⟩ (Nat.zero_add _)).bind
      fun _ hm => .pure hm

theorem runFilter_made (A : Atoms) (f : Filter) (l : List TB) (hA : l.length ≤ A.length) :
    Ok (runFilter A f l) (fun r => Made l r.1) := by
  cases f with
  | terminating => exact .pure (terminating_made A l)
  | titleMatch => exact .pure (titleMatch_made A l)
  | numWords => exact .pure (numWordsGo_made none l)
  | labelToBoilerplate => exact .pure (labelToBoilerplate_made l)
  | similarSibling p => exact similarSibling_made p A l hA
  | headingFusion => exact .pure (headingFusion_made l)
  | proximity post => exact .pure (proximityFusion_made post l)
  | boilerplate k => exact .pure (boilerplateBlock_made k l)
  | keepLargest e => exact .pure (keepLargest_made e A l)
  | expandTitle => exact .pure (expandTitle_made l)
  | largeBlock => exact .pure (largeBlock_made l)
  | listAtEnd => exact .pure (listAtEndGo_made _ l)

theorem run_cons_some {A : Atoms} {f : Filter} {l : List TB} {r : List TB × Bool} (h : runFilter A f l = some r)
    (fs : List Filter) : run A (f :: fs) l = run A fs r.1 := by
  rw [run, h]; rfl

theorem run_made (A : Atoms) : ∀ (fs : List Filter) (l : List TB), l.length ≤ A.length →
    Ok (run A fs l) (fun final => Made l final)
  | [], l, _ => .pure (.refl l)
  | f :: fs, l, hA =>
    (runFilter_made A f l hA).bind fun r hr =>
      (run_made A fs r.1 (Nat.le_trans hr.2 hA)).mono fun _ h => hr.trans h

def W (b0 f : TB) : Prop := ∀ i ∈ b0.members, ∀ j ∈ b0.members, i ∈ f.members → j ∈ f.members

theorem closed_whole (b0 : TB) : Closed (W b0) where
  merge a b ha hb i hi j hj h := List.mem_append.mpr ((List.mem_append.mp h).imp (ha i hi j hj) (hb i hi j hj))
  modify a a' hm _ _ ha := by unfold W; rw [hm]; exact ha

theorem whole_init (init : List TB) (hn : (allMembers init).Nodup) : ∀ f ∈ init, ∀ b0 ∈ init, W b0 f := by
  -- blocks at two positions of `init` share no Text element, so neither holds any of the other's
  have hd := (List.pairwise_flatMap.mp hn).2
  exact fun f hf b0 h0 => List.Pairwise.forall_of_forall_of_flip (R := fun f b0 => W b0 f)
    (fun _ _ _ _ _ hj _ => hj)  -- a block holds all of its own elements; the other two: none of another's
    (hd.imp fun hd i hi _ _ hm => absurd rfl (hd i hm i hi))
    (hd.imp fun hd i hi _ _ hm => absurd rfl (hd i hi i hm)) hf h0

def Wd (w : Nat → Nat) (f : TB) : Prop := f.numWords = (f.members.map w).sum

theorem closed_words (w : Nat → Nat) : Closed (Wd w) where
  merge a b ha hb := by unfold Wd at *; simp [ha, hb]
  modify a a' hm hn _ ha := by unfold Wd at *; rw [hm, hn]; exact ha

def Tl (i0 : Nat) (f : TB) : Prop := i0 ∈ f.members → f.labels.title = true

theorem closed_title (i0 : Nat) : Closed (Tl i0) where
  merge a b ha hb h := by
    rw [merge_title, Bool.or_eq_true]
    exact (List.mem_append.mp h).imp ha hb
  modify a a' hm _ ht ha h := ht (ha (hm ▸ h))

theorem foldl_words (w : Nat → Nat) (l : List TB) (h : All (Wd w) l) (k : Nat) :
    l.foldl (fun n b => n + b.numWords) k = k + ((l.flatMap (·.members)).map w).sum := by
  induction l generalizing k with
  | nil => rfl
  | cons a l ih =>
    obtain ⟨ha, hl⟩ := List.forall_mem_cons.mp h
    rw [List.foldl_cons, ih hl, (ha : a.numWords = _), List.flatMap_cons, List.map_append, List.sum_append_nat,
      Nat.add_assoc]

theorem countWords_eq (w : Nat → Nat) (l : List TB) (h : All (Wd w) l) :
    countWordsInContent l = ((contentMembers l).map w).sum :=
  (foldl_words w _ (fun b hb => h b (List.mem_filter.mp hb).1) 0).trans (Nat.zero_add _)

end Distill.Flt
