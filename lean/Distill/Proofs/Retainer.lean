import Distill.Proofs.DocFilters
namespace Distill

/-! ## NestedElementRetainer on well-nested element lists

`RT` is the forest view of a balanced element list: `item c` is any non-tag element with
content flag `c`, `pair i j kids` is a start tag at index `i`, its matching end tag at
index `j`, and what lies between.  Nothing here parses an element list into a forest: the statements about
`RT` (`run_spec`, `final_spec`, C07) hold of `RT.flatL ts` for any forest `ts`, and the statements about element
lists (`Proofs/Total`, C08) do not go through `RT`. -/

inductive RT where
  | item (c : Bool)
  | pair (i j : Nat) (kids : List RT)

mutual
def RT.flat : RT → List REv
  | .item c => [.item c]
  | .pair i j ks => [.start i] ++ RT.flatL ks ++ [.stop j]
def RT.flatL : List RT → List REv
  | [] => []
  | t :: ts => t.flat ++ RT.flatL ts
end

mutual
/-- some non-tag content element lies inside -/
def RT.hasC : RT → Bool
  | .item c => c
  | .pair _ _ ks => RT.hasCL ks
def RT.hasCL : List RT → Bool
  | [] => false
  | t :: ts => t.hasC || RT.hasCL ts
end

/-- contribution of one top-level tree to the running `isContent` -/
def RT.direct : RT → Bool
  | .item c => c
  | .pair _ _ _ => false

mutual
/-- the flag assignments the retainer performs, in order, when it enters the tree with
running flag `isC` -/
def RT.post (isC : Bool) : RT → List (Nat × Bool)
  | .item _ => []
  | .pair i j ks => [(i, isC)] ++ RT.postL false ks ++ [(i, RT.hasCL ks), (j, RT.hasCL ks)]
def RT.postL (isC : Bool) : List RT → List (Nat × Bool)
  | [] => []
  | t :: ts => t.post isC ++ RT.postL (isC || t.direct) ts
end

theorem rrun_append (s : RSt) (a b : List REv) :
    rrun s (a ++ b) =
      match rrun s a with
      | none => none
      | some (s1, o1) =>
        match rrun s1 b with
        | none => none
        | some (s2, o2) => some (s2, o1 ++ o2) := by
  -- case2: `rstep` fails; case3: the rest of `a` fails; case4: both succeed
  fun_induction rrun s a with
  | case1 s => cases h : rrun s b <;> simp [h]
  | case2 s e es h => simp [rrun, h]
  | case3 s e es s1 o1 h h1 ih => simp [rrun, h, ih, h1]
  | case4 s e es s1 o1 h s2 o2 h1 ih => cases h2 : rrun s2 b <;> simp [rrun, h, ih, h1, h2]

/-- `hasCL` split by where the content lies: at top level of the forest (`directC`, what the running `isContent`
sees) or inside one of its pairs (`nestedC`, what `mark` records) -/
def directC : List RT → Bool
  | [] => false
  | t :: ts => t.direct || directC ts

def nestedC : List RT → Bool
  | [] => false
  | .item _ :: ts => nestedC ts
  | .pair _ _ ks :: ts => RT.hasCL ks || nestedC ts

theorem hasCL_split : (ts : List RT) → RT.hasCL ts = (directC ts || nestedC ts)
  | [] => rfl
  | .item c :: ts => by
      simp [RT.hasCL, RT.hasC, directC, nestedC, RT.direct, hasCL_split ts, Bool.or_assoc]
  | .pair _ _ ks :: ts => by
      simp [RT.hasCL, RT.hasC, directC, nestedC, RT.direct, hasCL_split ts]
      cases RT.hasCL ks <;> cases directC ts <;> cases nestedC ts <;> rfl

/-- `mark` is the depth (stack length − 1) at which the last pair with content closed, so at a closing tag
`mark ≥ depth` says "a pair nested in this one had content"; the invariant: no mark from a deeper level
survives the return to this one -/
def RInv (s : RSt) : Prop := s.mark ≤ (s.stack.length : Int) - 1

/-- the state after the forest `ts` has run from `s` -/
def rafter (s : RSt) (ts : List RT) : RSt :=
  { isC := s.isC || directC ts,
    mark := if nestedC ts then (s.stack.length : Int) - 1 else s.mark,
    stack := s.stack }

theorem rafter_cons (s : RSt) (t : RT) (ts : List RT) : rafter (rafter s [t]) ts = rafter s (t :: ts) := by
  cases t with
  | item c => simp [rafter, directC, nestedC, RT.direct, Bool.or_assoc]; rfl
  | pair i j ks =>
    simp only [rafter, directC, nestedC, Bool.or_false, RT.direct]
    rcases Bool.eq_false_or_eq_true (RT.hasCL ks) with hk | hk <;>
    rcases Bool.eq_false_or_eq_true (nestedC ts) with hn | hn <;>
    simp [hk, hn]

mutual
theorem RT.run_spec : (t : RT) → (s : RSt) → RInv s →
    rrun s t.flat = some (rafter s [t], t.post s.isC)
  | .item c, s, _ => by
      simp [RT.flat, rrun, rstep, rafter, directC, nestedC, RT.post, RT.direct]
  | .pair i j ks, s, h => by
      have h1 : RInv { isC := false, mark := s.mark, stack := (s.isC, i) :: s.stack } := by
        simp only [RInv, List.length_cons] at *; omega
      have ih := RT.runL_spec ks _ h1
      simp only [RT.flat, List.cons_append, List.nil_append, rrun, rstep]
      rw [rrun_append, ih]
      simp only [rafter, rrun, rstep, List.length_cons, RT.post, List.append_nil, Bool.false_or]
      simp only [directC, nestedC, Bool.or_false, hasCL_split ks, RT.direct]
      -- the closing tag tests `mark ≥ depth`; by `RInv` that holds exactly if a nested pair set the mark (`nestedC ks`)
      simp only [RInv] at h
      cases hd : directC ks <;> cases hn : nestedC ks <;> simp <;> omega
theorem RT.runL_spec : (ts : List RT) → (s : RSt) → RInv s →
    rrun s (RT.flatL ts) = some (rafter s ts, RT.postL s.isC ts)
  | [], s, _ => by simp [RT.flatL, rrun, rafter, directC, nestedC, RT.postL]
  | t :: ts, s, h => by
      have hinv : RInv (rafter s [t]) := by
        simp only [RInv, rafter] at *; split <;> omega
      simp only [RT.flatL, rrun_append, RT.run_spec t s h, RT.runL_spec ts _ hinv, rafter_cons, RT.postL]
      simp [rafter, directC]
end

/-- the last flag assigned to index `i`, if any -/
def finalFlag (i : Nat) : List (Nat × Bool) → Option Bool
  | [] => none
  | (k, c) :: us =>
    match finalFlag i us with
    | some c' => some c'
    | none => if k = i then some c else none

theorem finalFlag_append (i : Nat) (a b : List (Nat × Bool)) :
    finalFlag i (a ++ b) = match finalFlag i b with
      | some c => some c
      | none => finalFlag i a := by
  induction a with
  | nil => simp [finalFlag]; cases finalFlag i b <;> rfl
  | cons p a ih =>
    obtain ⟨k, c⟩ := p
    simp only [List.cons_append, finalFlag, ih]
    cases finalFlag i b <;> simp

mutual
/-- the element indices of the tags of a tree -/
def RT.idx : RT → List Nat
  | .item _ => []
  | .pair i j ks => i :: j :: RT.idxL ks
def RT.idxL : List RT → List Nat
  | [] => []
  | t :: ts => t.idx ++ RT.idxL ts
end

mutual
theorem RT.post_idx : (t : RT) → (c : Bool) → ∀ p ∈ t.post c, p.1 ∈ t.idx
  | .item _, _ => by simp [RT.post]
  | .pair i j ks, c => by
      intro p hp
      simp only [RT.post, List.mem_append, List.mem_cons, List.not_mem_nil, or_false] at hp
      rcases hp with (rfl | hp) | rfl | rfl
      · simp [RT.idx]
      · simp [RT.idx, RT.postL_idx ks false p hp]
      · simp [RT.idx]
      · simp [RT.idx]
theorem RT.postL_idx : (ts : List RT) → (c : Bool) → ∀ p ∈ RT.postL c ts, p.1 ∈ RT.idxL ts
  | [], _ => by simp [RT.postL]
  | t :: ts, c => by
      intro p hp
      rw [RT.idxL, List.mem_append]
      exact (List.mem_append.1 hp).imp (RT.post_idx t c p) (RT.postL_idx ts _ p)
end

theorem finalFlag_none_of_not_mem (i : Nat) (us : List (Nat × Bool)) (h : ∀ p ∈ us, p.1 ≠ i) :
    finalFlag i us = none := by
  -- case2: the tail assigns to `i`; case3: it does not and the head does (`k = i`, substituted); case4: neither
  fun_induction finalFlag i us with
  | case1 => rfl
  | case2 k c us c' hc ih => exact hc.symm.trans (ih fun p hp => h p (List.mem_cons_of_mem _ hp))
  | case3 c us _ _ => exact absurd rfl (h (i, c) List.mem_cons_self)
  | case4 => rfl

mutual
/-- the tree holds a pair with start tag `i`, end tag `j`, whose inside has content exactly if `c` -/
def RT.hasPair (i j : Nat) (c : Bool) : RT → Prop
  | .item _ => False
  | .pair i' j' ks => (i' = i ∧ j' = j ∧ RT.hasCL ks = c) ∨ RT.hasPairL i j c ks
def RT.hasPairL (i j : Nat) (c : Bool) : List RT → Prop
  | [] => False
  | t :: ts => t.hasPair i j c ∨ RT.hasPairL i j c ts
end

mutual
theorem RT.hasPair_idx (i j : Nat) (c : Bool) : (t : RT) → t.hasPair i j c → i ∈ t.idx ∧ j ∈ t.idx
  | .item _ => by simp [RT.hasPair]
  | .pair i' j' ks => by
      rw [RT.hasPair]
      rintro (⟨rfl, rfl, _⟩ | h)
      · simp [RT.idx]
      · simp [RT.idx, RT.hasPairL_idx i j c ks h]
theorem RT.hasPairL_idx (i j : Nat) (c : Bool) : (ts : List RT) → RT.hasPairL i j c ts →
    i ∈ RT.idxL ts ∧ j ∈ RT.idxL ts
  | [] => by simp [RT.hasPairL]
  | t :: ts => by
      rw [RT.hasPairL]
      rintro (h | h)
      · simp [RT.idxL, RT.hasPair_idx i j c t h]
      · simp [RT.idxL, RT.hasPairL_idx i j c ts h]
end

mutual
theorem RT.final_spec (i j : Nat) (c : Bool) : (t : RT) → (isC : Bool) → t.idx.Nodup →
    t.hasPair i j c → finalFlag i (t.post isC) = some c ∧ finalFlag j (t.post isC) = some c
  | .item _, _, _ => by simp [RT.hasPair]
  | .pair i' j' ks, isC, hnd => by
      simp only [RT.idx, List.nodup_cons, List.mem_cons, not_or] at hnd
      obtain ⟨⟨hij, hi'⟩, hj', hks⟩ := hnd
      rw [RT.hasPair, RT.post]
      rintro (⟨rfl, rfl, rfl⟩ | h)
      · -- the pair's own assignments come last
        simp [finalFlag_append, finalFlag, Ne.symm hij]
      · -- its indices differ from those inside, where the induction hypothesis speaks
        have hin := RT.hasPairL_idx i j c ks h
        have ih := RT.finalL_spec i j c ks false hks h
        have ne : ∀ k ∈ RT.idxL ks, i' ≠ k ∧ j' ≠ k := fun k hk => ⟨fun e => hi' (e ▸ hk), fun e => hj' (e ▸ hk)⟩
        simp [finalFlag_append, finalFlag, ne i hin.1, ne j hin.2, ih]
theorem RT.finalL_spec (i j : Nat) (c : Bool) : (ts : List RT) → (isC : Bool) → (RT.idxL ts).Nodup →
    RT.hasPairL i j c ts → finalFlag i (RT.postL isC ts) = some c ∧ finalFlag j (RT.postL isC ts) = some c
  | [], _, _ => by simp [RT.hasPairL]
  | t :: ts, isC, hnd => by
      obtain ⟨hn1, hn2, hdis⟩ := List.nodup_append.mp hnd
      rw [RT.hasPairL, RT.postL]
      rintro (h | h)
      · -- nothing later assigns to an index of `t`
        have hin := RT.hasPair_idx i j c t h
        have none : ∀ k ∈ t.idx, finalFlag k (RT.postL (isC || t.direct) ts) = none := fun k hk =>
          finalFlag_none_of_not_mem _ _ fun p hp e => hdis k hk p.1 (RT.postL_idx ts _ p hp) e.symm
        rw [finalFlag_append, finalFlag_append, none i hin.1, none j hin.2]
        exact RT.final_spec i j c t isC hn1 h
      · have ih := RT.finalL_spec i j c ts (isC || t.direct) hn2 h
        rw [finalFlag_append, finalFlag_append, ih.1, ih.2]
        exact ⟨rfl, rfl⟩
end

theorem applyFlags_get (es : List Elem) (us : List (Nat × Bool)) (j : Nat) :
    (applyFlags es us)[j]? = es[j]?.map (fun e =>
      match finalFlag j us with
      | some c => { e with content := c }
      | none => e) := by
  fun_induction applyFlags es us with
  | case1 es => simp [finalFlag]
  | case2 es k c us ih =>
    simp only [ih, setFlagAt_get, finalFlag]
    cases finalFlag j us <;> by_cases hk : k = j <;> simp [hk] <;> cases es[j]? <;> simp

theorem applyFlags_length (es : List Elem) (us : List (Nat × Bool)) :
    (applyFlags es us).length = es.length := by
  fun_induction applyFlags es us <;> simp [*, setFlagAt_length]

end Distill
