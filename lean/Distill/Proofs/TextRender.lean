import Distill.Model.TextRender
import Distill.Proofs.Render
namespace Distill

/-! ## `domutil.TreeClone` -/

mutual
theorem keepNode_textIds (ids : List Nat) : (n : Node) →
    (match keepNode ids n with | some m => m.textIds | none => []) = n.textIds.filter (fun i => ids.contains i)
  | .text i d => by by_cases h : i ∈ ids <;> simp [keepNode, Node.textIds, h]
  | .other i k => by by_cases h : i ∈ ids <;> simp [keepNode, Node.textIds, h]
  | .elem i t a ks => by
    rw [Node.textIds, ← keepL_textIds ids ks]
    simp only [keepNode]
    by_cases h : (ids.contains i || !(keepL ids ks).isEmpty) = true
    · rw [if_pos h]
      rfl
    · -- dropped: not listed, and nothing below it was kept
      rw [if_neg h, (by simpa using h : i ∉ ids ∧ keepL ids ks = []).2]
      rfl
theorem keepL_textIds (ids : List Nat) : (ks : List Node) →
    textIdsL (keepL ids ks) = (textIdsL ks).filter (fun i => ids.contains i)
  | [] => by simp [keepL, textIdsL]
  | k :: ks => by
    rw [textIdsL, List.filter_append, ← keepNode_textIds ids k, ← keepL_textIds ids ks, keepL]
    cases keepNode ids k <;> rfl
end

theorem descend_spec (ids : List Nat) (fuel : Nat) (passed : List Shell) (n : Node) :
    (descend ids fuel passed n).2.textIds = n.textIds ∧
    (descend ids fuel passed n = (passed, n) ∨ passed.length < (descend ids fuel passed n).1.length) := by
  fun_induction descend ids fuel passed n with
  -- the step into an unlisted only child; every other branch returns `(passed, n)`
  | case3 passed fuel i t a k _ ih =>
    refine ⟨by rw [ih.1]; simp [Node.textIds, textIdsL], Or.inr ?_⟩
    rcases ih.2 with h | h
    · rw [h]; simp
    · simp only [List.length_cons] at h; omega
  | _ => exact ⟨rfl, Or.inl rfl⟩

theorem treeClone_textIds (ids : List Nat) (top : Node) (anc : List Shell) (c : Node)
    (h : treeClone ids top = some (anc, c)) :
    c.textIds = top.textIds.filter (fun i => ids.contains i) := by
  unfold treeClone at h
  split at h
  · cases h
  · split at h
    · cases h
    · rename_i p hp
      rw [← keepNode_textIds ids top, hp]
      show c.textIds = p.textIds
      rw [← (descend_spec ids top.size [] p).1, Option.some.inj h]

/-- in the HTML namespace the parser gives void elements no children, so an ancestor of a text node can
only be void-named when it is an SVG / MathML element -/
def NoVoid (anc : List Shell) : Prop := ∀ s ∈ anc, domVoid s.tag = false

theorem wrap_textIds (s : Shell) (n : Node) : (s.wrap n).textIds = if domVoid s.tag then [] else n.textIds := by
  unfold Shell.wrap
  split <;> simp [Node.textIds, textIdsL]

/-- what a clone wrapped in shallow copies of (some of) the ancestors `anc` holds: the text nodes
`all` it held before, or none because a void-named ancestor refused it -/
def KeptOrLost (anc : List Shell) (got all : List Nat) : Prop := got = all ∨ (got = [] ∧ ¬ NoVoid anc)

theorem KeptOrLost.sublist {anc got all} (h : KeptOrLost anc got all) : got.Sublist all := by
  rcases h with rfl | ⟨rfl, _⟩
  · exact List.Sublist.refl _
  · exact List.nil_sublist _

theorem KeptOrLost.eq {anc got all} (h : KeptOrLost anc got all) (hv : NoVoid anc) : got = all :=
  h.resolve_right fun h => h.2 hv

theorem KeptOrLost.wrap {anc : List Shell} {n : Node} {got : List Nat} (s : Shell)
    (h : KeptOrLost anc got (s.wrap n).textIds) : KeptOrLost (s :: anc) got n.textIds := by
  rcases h with rfl | ⟨rfl, hn⟩
  · rw [wrap_textIds]
    split
    · rename_i hs
      exact Or.inr ⟨rfl, fun hv => by simp [(List.forall_mem_cons.mp hv).1] at hs⟩
    · exact Or.inl rfl
  · exact Or.inr ⟨rfl, fun hv => hn (List.forall_mem_cons.mp hv).2⟩

theorem climb_textIds (A : CAtoms) (anc : List Shell) (r : Node) : KeptOrLost anc (climb A r anc).textIds r.textIds := by
  fun_induction climb A r anc with
  -- the wrapping step; every other branch returns the root as it is
  | case5 r s rest _ _ _ ih => exact ih.wrap s
  | _ => exact Or.inl rfl

theorem bodyToDiv_of_ne (n : Node) (h : n.tag ≠ "body") : bodyToDiv n = n := by
  unfold bodyToDiv
  split
  · simp [Node.tag] at h
  · rfl

mutual
/-- the body → div step merges adjacent text nodes, so it keeps no text ids; what it keeps is the characters -/
def Node.textData : Node → List Char
  | .text _ d => d.toList
  | .elem _ _ _ ks => textDataL ks
  | .other _ _ => []
def textDataL : List Node → List Char
  | [] => []
  | k :: ks => k.textData ++ textDataL ks
end

theorem mergeTexts_textData : ∀ (ks : List Node), textDataL (mergeTexts ks) = textDataL ks := by
  intro ks
  fun_induction mergeTexts ks with
  | case1 i a j b rest ih =>
    rw [ih]; simp [textDataL, Node.textData, String.toList_append]
  | case2 k rest hne ih =>
    simp only [textDataL, ih]
  | case3 => rfl

mutual
theorem mergeDeep_textData : (n : Node) → (mergeDeep n).textData = n.textData
  | .text _ _ => rfl
  | .other _ _ => rfl
  | .elem i t a ks => by
    simp only [mergeDeep, Node.textData]
    rw [mergeTexts_textData, mergeDeepL_textData ks]
theorem mergeDeepL_textData : (ks : List Node) → textDataL (mergeDeepL ks) = textDataL ks
  | [] => rfl
  | k :: ks => by simp only [mergeDeepL, textDataL, mergeDeep_textData k, mergeDeepL_textData ks]
end

/-! ## `Text.GenerateOutput` -/

/-- the root the loop starts from, before the body step -/
def textCloneStart (ids : List Nat) (top : Node) : Option (List Shell × Node) :=
  match treeClone ids top with
  | none => none
  | some (anc, c) =>
    if c.isElem then some (anc, c) else
    match anc with
    | s :: rest => some (rest, s.wrap c)
    | [] => none

theorem textCloneStart_eq_some {ids : List Nat} {top : Node} {anc : List Shell} {r : Node}
    (h : textCloneStart ids top = some (anc, r)) :
    ∃ anc0 c, treeClone ids top = some (anc0, c) ∧
      ((c.isElem = true ∧ anc0 = anc ∧ c = r) ∨ (c.isElem = false ∧ ∃ s, anc0 = s :: anc ∧ s.wrap c = r)) := by
  unfold textCloneStart at h
  split at h
  · cases h
  · rename_i anc0 c ht
    refine ⟨anc0, c, ht, ?_⟩
    split at h
    · rename_i hc
      cases h
      exact Or.inl ⟨hc, rfl, rfl⟩
    · rename_i hc
      split at h
      · cases h
        exact Or.inr ⟨by simpa using hc, _, rfl, rfl⟩
      · cases h

theorem textClone_eq (A : CAtoms) (abs absSet : String → String) (ids : List Nat) (top : Node) :
    textClone A abs absSet ids top =
      (textCloneStart ids top).map (fun p => processClone abs absSet (climb A (bodyToDiv p.2) p.1)) := by
  unfold textClone textCloneStart
  rcases treeClone ids top with _ | ⟨anc, c⟩
  · rfl
  · simp only
    cases c.isElem <;> cases anc <;> rfl

theorem textClone_eq_some {A : CAtoms} {abs absSet : String → String} {ids : List Nat} {top out : Node}
    (h : textClone A abs absSet ids top = some out) : ∃ m, out = processClone abs absSet m := by
  rw [textClone_eq] at h
  obtain ⟨p, _, rfl⟩ := Option.map_eq_some_iff.mp h
  exact ⟨_, rfl⟩

theorem textClone_textIds (A : CAtoms) (abs absSet : String → String) (ids : List Nat) (top : Node)
    (anc : List Shell) (r0 out : Node)
    (hs : textCloneStart ids top = some (anc, r0)) (hb : r0.tag ≠ "body")
    (h : textClone A abs absSet ids top = some out) :
    ∃ anc0 c, treeClone ids top = some (anc0, c) ∧
      KeptOrLost anc0 out.textIds (top.textIds.filter (fun i => ids.contains i)) := by
  rw [textClone_eq, hs] at h
  cases h
  obtain ⟨anc0, c, ht, hc⟩ := textCloneStart_eq_some hs
  refine ⟨anc0, c, ht, ?_⟩
  rw [processClone_textIds, bodyToDiv_of_ne r0 hb, ← treeClone_textIds ids top anc0 c ht]
  rcases hc with ⟨_, rfl, rfl⟩ | ⟨_, s, rfl, rfl⟩
  · exact climb_textIds A _ _
  · exact (climb_textIds A anc (s.wrap c)).wrap s

/-! ## totality (C01): the nil dereferences of `Text.GenerateOutput` are unreachable -/

mutual
/-- some node of the tree has id `j` (premise of `text_render_total`: the window's first node is in the tree) -/
def Node.hasId (j : Nat) : Node → Bool
  | .text i _ => i == j
  | .other i _ => i == j
  | .elem i _ _ ks => i == j || hasIdL j ks
def hasIdL (j : Nat) : List Node → Bool
  | [] => false
  | k :: ks => k.hasId j || hasIdL j ks
end

mutual
theorem keepNode_some_of_hasId (ids : List Nat) (j : Nat) (hj : ids.contains j = true) :
    (n : Node) → n.hasId j = true → (keepNode ids n).isSome = true
  | .text i d, h => by
    obtain rfl : i = j := by simpa [Node.hasId] using h
    simp [keepNode, List.contains_iff_mem.mp hj]
  | .other i k, h => by
    obtain rfl : i = j := by simpa [Node.hasId] using h
    simp [keepNode, List.contains_iff_mem.mp hj]
  | .elem i t a ks, h => by
    simp only [Node.hasId, Bool.or_eq_true, beq_iff_eq] at h
    simp only [keepNode]
    rcases h with rfl | h
    · simp [List.contains_iff_mem.mp hj]
    · simp [keepL_ne_nil_of_hasId ids j hj ks h]
theorem keepL_ne_nil_of_hasId (ids : List Nat) (j : Nat) (hj : ids.contains j = true) :
    (ks : List Node) → hasIdL j ks = true → keepL ids ks ≠ []
  | [], h => by simp [hasIdL] at h
  | k :: ks, h => by
    simp only [hasIdL, Bool.or_eq_true] at h
    simp only [keepL]
    cases hk : keepNode ids k with
    | some m => simp
    | none =>
      rcases h with h | h
      · have := keepNode_some_of_hasId ids j hj k h
        rw [hk] at this; cases this
      · simpa using keepL_ne_nil_of_hasId ids j hj ks h
end

theorem keepNode_isElem (ids : List Nat) (n m : Node) (h : keepNode ids n = some m) : m.isElem = n.isElem := by
  cases n <;> simp only [keepNode] at h <;> split at h <;> cases h <;> rfl

theorem treeClone_total (ids : List Nat) (top : Node)
    (j : Nat) (hj : ids.contains j = true) (hin : top.hasId j = true) (htop : top.isElem = true) :
    ∃ anc c, treeClone ids top = some (anc, c) ∧ (c.isElem = true ∨ anc ≠ []) := by
  have hne : ids.isEmpty = false := by
    cases ids with
    | nil => cases hj
    | cons _ _ => rfl
  obtain ⟨p, hp⟩ := Option.isSome_iff_exists.mp (keepNode_some_of_hasId ids j hj top hin)
  refine ⟨_, _, by simp only [treeClone, hne, hp]; rfl, ?_⟩
  rcases (descend_spec ids top.size [] p).2 with h | h
  · rw [h]; exact Or.inl ((keepNode_isElem ids top p hp).trans htop)
  · exact Or.inr (List.ne_nil_of_length_pos (Nat.zero_lt_of_lt h))

/-! ## Document.GenerateOutput -/

theorem docOutput_filter (textOnly : Bool) (es : List OutEl) :
    docOutput textOnly (es.filter (·.content)) = docOutput textOnly es := by
  induction es with
  | nil => rfl
  | cons e es ih =>
    by_cases h : e.content = true <;> simp [List.filter, h, docOutput, ih]

end Distill
