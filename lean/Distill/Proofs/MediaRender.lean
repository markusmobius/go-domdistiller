import Distill.Model.MediaRender
import Distill.Proofs.TextRender
namespace Distill

/-! Image, video, embed and figure elements.  What each serialises is `processClone` or `stripNode` of some tree
(`cloneAndProcessTree_eq_some`, `figureTree_eq_some`), so `Render`'s facts apply; image and video clones go
through `MakeAllSrcAttributesAbsolute` / `MakeAllSrcSetAbsolute` only, for which `SrcAbs` … `stripNode_srcAbs` is the
counterpart of `Render`'s `UrlsAbs` … `stripNode_abs`. -/

theorem cloneAndProcessTree_eq_some {A : CAtoms} {abs absSet : String → String} {root c : Node}
    (h : cloneAndProcessTree A abs absSet root = some c) :
    ∃ anc c0, treeClone (outputIds A root) root = some (anc, c0) ∧ c = processClone abs absSet c0 := by
  unfold cloneAndProcessTree at h
  split at h
  · rename_i anc c0 ht
    split at h
    · cases h; exact ⟨anc, c0, ht, rfl⟩
    · cases h
  · cases h

theorem figureTree_eq_some {A : CAtoms} {abs absSet : String → String} {el caption f : Node}
    (h : figureTree A abs absSet el caption = some f) : ∃ m, f = stripNode m := by
  unfold figureTree at h
  split at h
  · cases h; exact ⟨_, rfl⟩
  · split at h
    · cases h; exact ⟨_, rfl⟩
    · cases h

mutual
/-- the tags of a tree's elements, in preorder (`tags_eq_map_elems`) -/
def Node.tags : Node → List String
  | .text _ _ => []
  | .other _ _ => []
  | .elem _ t _ ks => t :: tagsL ks
def tagsL : List Node → List String
  | [] => []
  | k :: ks => k.tags ++ tagsL ks
end

mutual
/-- the ids of a tree's elements, in preorder -/
def Node.elemIds : Node → List Nat
  | .text _ _ => []
  | .other _ _ => []
  | .elem i _ _ ks => i :: elemIdsL ks
def elemIdsL : List Node → List Nat
  | [] => []
  | k :: ks => k.elemIds ++ elemIdsL ks
end

theorem tagsL_sublist {l₁ l₂ : List Node} (h : l₁.Sublist l₂) : (tagsL l₁).Sublist (tagsL l₂) := by
  induction h with
  | slnil => exact .slnil
  | cons k _ ih => exact ih.trans (List.sublist_append_right _ _)
  | cons_cons k _ ih => exact ih.append_left _

mutual
theorem Node.tags_eq_map_elems : (n : Node) → n.tags = n.elems.map Node.tag
  | .text _ _ => rfl
  | .other _ _ => rfl
  | .elem _ _ _ ks => by simp [Node.tags, Node.elems, Node.tag, tagsL_eq_map_elems ks]
theorem tagsL_eq_map_elems : (ks : List Node) → tagsL ks = (elemsL ks).map Node.tag
  | [] => rfl
  | k :: ks => by simp [tagsL, elemsL, k.tags_eq_map_elems, tagsL_eq_map_elems ks]
end

mutual
theorem Node.elemIds_eq_map_elems : (n : Node) → n.elemIds = n.elems.map Node.id
  | .text _ _ => rfl
  | .other _ _ => rfl
  | .elem _ _ _ ks => by simp [Node.elemIds, Node.elems, Node.id, elemIdsL_eq_map_elems ks]
theorem elemIdsL_eq_map_elems : (ks : List Node) → elemIdsL ks = (elemsL ks).map Node.id
  | [] => rfl
  | k :: ks => by simp [elemIdsL, elemsL, k.elemIds_eq_map_elems, elemIdsL_eq_map_elems ks]
end

/-- an element `GetOutputNodes` never collects and `Embed.GenerateOutput` removes: script, style, or a
foreign element named like a raw text element -/
def Node.rawText (A : CAtoms) (e : Node) : Bool := e.tag == "script" || e.tag == "style" || A.foreignRaw e.id

theorem dropScriptStyleL_cons (A : CAtoms) (k : Node) (ks : List Node) :
    dropScriptStyleL A (k :: ks) =
      if k.isElem && k.rawText A then dropScriptStyleL A ks else dropScriptStyle A k :: dropScriptStyleL A ks := by
  cases k <;> simp [dropScriptStyleL, Node.isElem, Node.rawText, Node.tag, Node.id]

mutual
theorem dropScriptStyle_kids_clean (A : CAtoms) : (n : Node) → ∀ e ∈ elemsL (dropScriptStyle A n).kids, e.rawText A = false
  | .text _ _ => by simp [dropScriptStyle, Node.kids, elemsL]
  | .other _ _ => by simp [dropScriptStyle, Node.kids, elemsL]
  | .elem i t a ks => dropScriptStyleL_clean A ks
theorem dropScriptStyleL_clean (A : CAtoms) : (ks : List Node) → ∀ e ∈ elemsL (dropScriptStyleL A ks), e.rawText A = false
  | [] => by simp [dropScriptStyleL, elemsL]
  | k :: ks => by
    intro e he
    rw [dropScriptStyleL_cons] at he
    split at he
    · exact dropScriptStyleL_clean A ks e he
    · rename_i hk
      rcases List.mem_append.mp he with h | h
      · cases k with
        | elem i t a ks' =>
          rcases List.mem_cons.mp h with rfl | h
          · simpa [Node.isElem, Node.rawText, Node.tag, Node.id] using hk
          · exact dropScriptStyle_kids_clean A (.elem i t a ks') e h
        | _ => simp [dropScriptStyle, Node.elems] at h
      · exact dropScriptStyleL_clean A ks e h
end

mutual
theorem stripNode_tags : (n : Node) → (stripNode n).tags = n.tags
  | .text _ _ => rfl
  | .other _ _ => rfl
  | .elem i t a ks => by simp [stripNode, Node.tags, stripNodeL_tags ks]
theorem stripNodeL_tags : (ks : List Node) → tagsL (stripNodeL ks) = tagsL ks
  | [] => rfl
  | k :: ks => by simp [stripNodeL, tagsL, stripNode_tags k, stripNodeL_tags ks]
end

theorem stripNode_kids (n : Node) : (stripNode n).kids = stripNodeL n.kids := by
  cases n <;> simp [stripNode, Node.kids, stripNodeL]

theorem embedKids_safe (A : CAtoms) (el : Node) : allAttrsSafeL (embedKids A el) = true := by
  unfold embedKids
  split
  · simp [allAttrsSafeL, stripNode_safe]
  · rfl

theorem embedKids_no_script (A : CAtoms) (el : Node) :
    ∀ k ∈ embedKids A el, (k.tag = "blockquote" ∨ k.tag = "iframe") ∧ ∀ t ∈ tagsL k.kids, t ≠ "script" ∧ t ≠ "style" := by
  intro k hk
  unfold embedKids at hk
  split at hk
  · rename_i htag
    obtain rfl := List.mem_singleton.mp hk
    have htag' : (stripNode (dropScriptStyle A el)).tag = el.tag := by cases el <;> rfl
    refine ⟨by simpa [htag'] using htag, fun t ht => ?_⟩
    rw [stripNode_kids, stripNodeL_tags, tagsL_eq_map_elems] at ht
    obtain ⟨e, he, rfl⟩ := List.mem_map.mp ht
    simpa [Node.rawText, not_or] using (Bool.or_eq_false_iff.mp (dropScriptStyle_kids_clean A el e he)).1
  · cases hk

/-- `UrlsAbs` without its `href` and `poster` clauses: image and video clones go through
`MakeAllSrcAttributesAbsolute` and `MakeAllSrcSetAbsolute` only -/
def SrcAbs (abs absSet : String → String) (tag : String) (attrs : List Attr) : Prop :=
  ∀ a ∈ attrs,
    (srcTags.contains tag = true → a.key = "src" → IsImg abs a.val) ∧
    (a.key = "srcset" → ∃ w, a.val = absSet w)

theorem absSrcOne_key (abs absSet : String → String) (tag : String) (c : Attr) :
    (absSrcOne abs absSet tag c).key = c.key := by
  simp only [absSrcOne, apply_ite Attr.key, ite_self]

theorem absSrcOne_src {abs absSet : String → String} {tag : String} {c : Attr} (hk : c.key = "src")
    (ht : srcTags.contains tag = true) :
    absSrcOne abs absSet tag c = if c.val != "" then { c with val := abs c.val } else c := by
  simp [absSrcOne, hk, List.contains_iff_mem.mp ht]

theorem absSrcOne_srcset {abs absSet : String → String} {tag : String} {c : Attr} (h : c.key = "srcset") :
    absSrcOne abs absSet tag c = { c with val := absSet c.val } := by
  simp [absSrcOne, h]

theorem absSrcAttrs_abs (abs absSet : String → String) (tag : String) (attrs : List Attr) :
    SrcAbs abs absSet tag (absSrcAttrs abs absSet tag attrs) := by
  intro a ha
  obtain ⟨c, _, rfl⟩ := List.mem_map.mp ha
  rw [absSrcOne_key]
  exact ⟨fun ht hk => absSrcOne_src hk ht ▸ isImg_resolved abs c, fun hk => ⟨c.val, by rw [absSrcOne_srcset hk]⟩⟩

mutual
def Node.allSrcAbs (abs absSet : String → String) : Node → Prop
  | .text _ _ => True
  | .other _ _ => True
  | .elem _ t attrs ks => SrcAbs abs absSet t attrs ∧ allSrcAbsL abs absSet ks
def allSrcAbsL (abs absSet : String → String) : List Node → Prop
  | [] => True
  | k :: ks => k.allSrcAbs abs absSet ∧ allSrcAbsL abs absSet ks
end

mutual
theorem absSrcNode_abs (abs absSet : String → String) : (n : Node) → (absSrcNode abs absSet n).allSrcAbs abs absSet
  | .text _ _ => trivial
  | .other _ _ => trivial
  | .elem _ t attrs ks => ⟨absSrcAttrs_abs abs absSet t attrs, absSrcNodeL_abs abs absSet ks⟩
theorem absSrcNodeL_abs (abs absSet : String → String) : (ks : List Node) → allSrcAbsL abs absSet (absSrcNodeL abs absSet ks)
  | [] => trivial
  | k :: ks => ⟨absSrcNode_abs abs absSet k, absSrcNodeL_abs abs absSet ks⟩
end

mutual
theorem stripNode_srcAbs (abs absSet : String → String) : (n : Node) → n.allSrcAbs abs absSet →
    (stripNode n).allSrcAbs abs absSet
  | .text _ _, _ => trivial
  | .other _ _, _ => trivial
  | .elem _ _ _ ks, h => ⟨fun a ha => h.1 a (List.mem_filter.mp ha).1, stripNodeL_srcAbs abs absSet ks h.2⟩
theorem stripNodeL_srcAbs (abs absSet : String → String) : (ks : List Node) → allSrcAbsL abs absSet ks →
    allSrcAbsL abs absSet (stripNodeL ks)
  | [], _ => trivial
  | k :: ks, h => ⟨stripNode_srcAbs abs absSet k h.1, stripNodeL_srcAbs abs absSet ks h.2⟩
end

/-- the poster of the video element itself: resolved before the `src` pass, which leaves it alone,
and `poster` is on the allow list or gone -/
theorem posterAbs_spec (abs : String → String) (attrs : List Attr) :
    ∀ a ∈ posterAbs abs attrs, a.key = "poster" → IsImg abs a.val := by
  intro a ha hk
  obtain ⟨c, _, rfl⟩ := List.mem_map.mp ha
  by_cases h1 : c.key = "poster"
  · simpa [h1] using isImg_resolved abs c
  · simp [h1] at hk

theorem outputIds_hidden (A : CAtoms) (i : Nat) (t : String) (attrs : List Attr) (ks : List Node)
    (h : visible A i t attrs = false ∨ t = "script" ∨ t = "style" ∨ A.foreignRaw i = true) :
    outputIds A (.elem i t attrs ks) = [] := by
  rcases h with h | h | h | h <;> simp [outputIds, h]

mutual
/-- C09's "image URLs of a clone": the `src` and the srcset URLs of every element, in document order
(what `GetImageURLs` should return for the tree) -/
def Node.imageCands (setURLs : String → List String) : Node → List String
  | .text _ _ => []
  | .other _ _ => []
  | .elem _ _ attrs ks =>
    (if getAttr attrs "src" != "" then [getAttr attrs "src"] else []) ++
    (if hasAttr attrs "srcset" then setURLs (getAttr attrs "srcset") else []) ++ imageCandsL setURLs ks
def imageCandsL (setURLs : String → List String) : List Node → List String
  | [] => []
  | k :: ks => k.imageCands setURLs ++ imageCandsL setURLs ks
end

mutual
theorem allSrcSetURLs_sublist (setURLs : String → List String) : (n : Node) →
    (allSrcSetURLs setURLs n).Sublist (n.imageCands setURLs)
  | .text _ _ => by simp [allSrcSetURLs, Node.imageCands]
  | .other _ _ => by simp [allSrcSetURLs, Node.imageCands]
  | .elem i t attrs ks => by
    simp only [allSrcSetURLs, Node.imageCands, List.append_assoc]
    exact ((allSrcSetURLsL_sublist setURLs ks).append_left _).trans (List.sublist_append_right _ _)
theorem allSrcSetURLsL_sublist (setURLs : String → List String) : (ks : List Node) →
    (allSrcSetURLsL setURLs ks).Sublist (imageCandsL setURLs ks)
  | [] => by simp [allSrcSetURLsL, imageCandsL]
  | k :: ks => by
    simp only [allSrcSetURLsL, imageCandsL]
    exact List.Sublist.append (allSrcSetURLs_sublist setURLs k) (allSrcSetURLsL_sublist setURLs ks)
end

mutual
/-- `img` and `source` are void elements: the parser never gives them children -/
def Node.voidLeaves : Node → Prop
  | .text _ _ => True
  | .other _ _ => True
  | .elem _ t _ ks => ((t == "img" || t == "source") = true → ks = []) ∧ voidLeavesL ks
def voidLeavesL : List Node → Prop
  | [] => True
  | k :: ks => k.voidLeaves ∧ voidLeavesL ks
end

mutual
theorem tableImageURLsNode_sublist (setURLs : String → List String) : (n : Node) → n.voidLeaves →
    (tableImageURLsNode setURLs n).Sublist (n.imageCands setURLs)
  | .text _ _, _ => by simp [tableImageURLsNode, Node.imageCands]
  | .other _ _, _ => by simp [tableImageURLsNode, Node.imageCands]
  | .elem i t attrs ks, hv => by
    simp only [Node.voidLeaves] at hv
    simp only [tableImageURLsNode, Node.imageCands]
    by_cases ht : (t == "img" || t == "source") = true
    · have hk := hv.1 ht
      subst hk
      simp [ht, allSrcSetURLs, allSrcSetURLsL, tableImageURLsBelow, imageCandsL]
    · simp only [ht, Bool.false_eq_true, if_false, List.nil_append, List.append_assoc]
      exact ((tableImageURLsBelow_sublist setURLs ks hv.2).trans (List.sublist_append_right _ _)).trans
        (List.sublist_append_right _ _)
theorem tableImageURLsBelow_sublist (setURLs : String → List String) : (ks : List Node) → voidLeavesL ks →
    (tableImageURLsBelow setURLs ks).Sublist (imageCandsL setURLs ks)
  | [], _ => by simp [tableImageURLsBelow, imageCandsL]
  | k :: ks, hv => by
    simp only [voidLeavesL] at hv
    simp only [tableImageURLsBelow, imageCandsL]
    exact List.Sublist.append (tableImageURLsNode_sublist setURLs k hv.1) (tableImageURLsBelow_sublist setURLs ks hv.2)
end

end Distill
