/-
  The term reader (Model/Terms.lean): a number between decorations is read as that number, a term with a letter
  in it is no number.
-/
import Distill.Model.Terms
import Distill.Proofs.Basics

namespace Distill.Pg

theorem digit_is_alnum (c : Char) (h : isAsciiDigit c = true) : isAsciiAlnum c = true := by
  simp [isAsciiAlnum, h]

theorem decorated_number (pre ds suf : List Char)
    (hpre : pre.all (fun c => !isAsciiAlnum c) = true)
    (hds : ds.all isAsciiDigit = true) (hne : ds ≠ [])
    (hsuf : suf.all (fun c => !isAsciiAlnum c) = true) :
    termNumber (pre ++ ds ++ suf) = some (digitsVal ds) := by
  unfold termNumber
  -- the decoration before the digits is dropped, the digits are taken, the decoration after them is left
  have hds' : ∀ c ∈ ds, isAsciiDigit c = true := List.all_eq_true.1 hds
  have hnd : ∀ c ∈ suf, isAsciiDigit c = false := fun c hc =>
    Bool.eq_false_iff.2 fun hd => by simpa [digit_is_alnum c hd] using List.all_eq_true.1 hsuf c hc
  have h1 : (pre ++ ds ++ suf).dropWhile (fun c => !isAsciiAlnum c) = ds ++ suf := by
    rw [List.append_assoc]
    refine (List.span_append (List.all_eq_true.1 hpre) fun c hc => ?_).2
    cases ds with
    | nil => exact absurd rfl hne
    | cons d rest => cases hc; simp [digit_is_alnum _ (hds' _ List.mem_cons_self)]
  obtain ⟨h2, h3⟩ := List.span_append hds' fun c hc => hnd c (List.mem_of_mem_head? hc)
  simp only [h1, h2, h3]
  simp [List.isEmpty_eq_false_iff.2 hne, hsuf]

theorem letter_term_not_number (t : List Char) (c : Char) (hc : c ∈ t)
    (hl : isAsciiAlnum c = true) (hnd : isAsciiDigit c = false) : termNumber t = none := by
  unfold termNumber
  -- the letter is in the part that is kept after the leading non-alphanumerics, and since it is
  -- no digit it ends up in the tail, which must be free of alphanumerics
  have htail : c ∈ (t.dropWhile (fun c => !isAsciiAlnum c)).dropWhile isAsciiDigit :=
    List.mem_dropWhile_of_neg (List.mem_dropWhile_of_neg hc (by simp [hl])) hnd
  have : ((t.dropWhile (fun c => !isAsciiAlnum c)).dropWhile isAsciiDigit).all (fun c => !isAsciiAlnum c) = false :=
    List.all_eq_false.2 ⟨c, htail, by simp [hl]⟩
  simp [this]

theorem no_digit_text (text : List Char) (h : text.any isAsciiDigit = false) : textOps text = [.addGroup] := by
  simp [textOps, h]

/-- for the examples -/
def opCode : GOp → Int
  | .add p => p.num
  | .addGroup => -1
  | .cleanUp => -2

example : (textOps "1 | 2 | 3".toList).map opCode = [1, 2, 3] := by decide +kernel
example : (textOps "\u00a0|\u00a02\u00a0|\u00a0".toList).map opCode = [2] := by decide +kernel
example : (textOps "\u7b2c2\u9875".toList).map opCode = [2] := by decide +kernel
example : (textOps "page 2 of 5".toList).map opCode = [-1, 2, -1, 5] := by decide +kernel
example : (textOps "2024".toList).map opCode = [-1] := by decide +kernel
example : (textOps "no number here".toList).map opCode = [-1] := by decide +kernel
example : linkTextToNumber " [12] ".toList = some 12 := by decide +kernel
example : linkTextToNumber "3a".toList = none := by decide +kernel

end Distill.Pg
