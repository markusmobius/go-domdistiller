/-
  The DOM scan on conventional pagers, by kernel evaluation over a grid: `<div>` holding the links
  1 … n (the current page k as plain text or wrapped in `<strong>`), with or without white-space text
  nodes between the items.
-/
import Distill.Model.Scan
namespace Distill.ScanPager
open Distill

/-- the pager under construction: the next free node id, the children so far, the page infos of the anchors (by
node id), the ids of the white-space text nodes -/
structure B where
  next : Nat := 1
  kids : List Node := []
  infos : List (Nat × Int × String) := []
  blanks : List Nat := []

def item (n k : Nat) (wrap sep : Bool) (b : B) (i : Nat) : B :=
  let b1 : B :=
    if i == k then
      if wrap then { b with next := b.next + 2, kids := b.kids ++ [.elem b.next "strong" [] [.text (b.next + 1) (toString i)]] }
      else { b with next := b.next + 1, kids := b.kids ++ [.text b.next (toString i)] }
    else { b with next := b.next + 2, kids := b.kids ++ [.elem b.next "a" [] [.text (b.next + 1) (toString i)]],
                  infos := b.infos ++ [(b.next, (i : Int), "u" ++ toString i)] }
  if sep && i < n then { b1 with next := b1.next + 1, kids := b1.kids ++ [.text b1.next " "], blanks := b1.blanks ++ [b1.next] }
  else b1

def build (n k : Nat) (wrap sep : Bool) : B := ((List.range n).map (· + 1)).foldl (item n k wrap sep) {}

def tree (n k : Nat) (wrap sep : Bool) : Node := .elem 0 "div" [] (build n k wrap sep).kids

def atoms (n k : Nat) (wrap sep : Bool) : Scan.A :=
  let b := build n k wrap sep
  { pageInfo := fun i => (b.infos.find? (fun x => x.1 == i)).map (fun x => (x.2.1, x.2.2)),
    noWords := fun i => b.blanks.contains i }

/-- the one group a conventional pager should leave -/
def canonical (n k : Nat) : List (Int × List (Int × String)) :=
  [(1, ((List.range n).map (fun j => j + 1)).map fun (i : Nat) => (Int.ofNat i, if i == k then "" else "u" ++ toString i))]

def cellOk (n k : Nat) (wrap sep : Bool) : Bool :=
  (Scan.scanGroups (atoms n k wrap sep) (tree n k wrap sep)).map
    (·.map fun g => (g.deltaSign, g.list.map fun p => (p.num, p.url))) == some (canonical n k)

/-- the (n, k) with 2 ≤ n ≤ 12, 1 ≤ k ≤ n, written as `C17.allCells` is, so that `C17.allCells_complete` shows
membership here too -/
def cells : List (Nat × Nat) := (List.range 11).flatMap (fun j => (List.range (j + 2)).map (fun i => (j + 2, i + 1)))

theorem pager_scan_cells : ∀ c ∈ cells, ∀ wrap ∈ [false, true], ∀ sep ∈ [false, true], cellOk c.1 c.2 wrap sep = true := by
  decide +kernel

end Distill.ScanPager
