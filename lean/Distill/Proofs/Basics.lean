/-
  Facts about lists, folds, `if` and look-up tables that the proof files share; nothing here speaks of the model.
-/
namespace List

theorem span_append {α} {p : α → Bool} {a b : List α} (ha : ∀ c ∈ a, p c = true)
    (hb : ∀ c ∈ b.head?, p c = false) : (a ++ b).takeWhile p = a ∧ (a ++ b).dropWhile p = b := by
  rw [takeWhile_append_of_pos ha, dropWhile_append_of_pos ha]
  cases b with
  | nil => simp
  | cons c t => simp [hb c rfl]

theorem mem_dropWhile_of_neg {α} {p : α → Bool} {a : α} {l : List α} (h : a ∈ l) (hp : p a = false) :
    a ∈ l.dropWhile p := by
  rw [← takeWhile_append_dropWhile (p := p) (l := l), mem_append] at h
  exact h.resolve_left fun ht => by simp [all_eq_true.1 all_takeWhile a ht] at hp

theorem Sublist.flatten {α} {l₁ l₂ : List (List α)} (h : l₁.Sublist l₂) : l₁.flatten.Sublist l₂.flatten := by
  induction h with
  | slnil => exact .refl _
  | cons a _ ih => exact ih.trans (sublist_append_right a _)
  | cons_cons a _ ih => exact (Sublist.refl a).append ih

theorem filter_mem_of_sublist {α} [DecidableEq α] {M L : List α} (hM : M.Nodup) (hL : L.Sublist M) :
    M.filter (· ∈ L) = L := by
  induction hL with
  | slnil => rfl
  | @cons L M' m hL ih =>
    obtain ⟨hm, hM'⟩ := nodup_cons.mp hM
    rw [filter_cons, if_neg (by simpa using fun h => hm (hL.subset h))]; exact ih hM'
  | @cons_cons L M' m hL ih =>
    obtain ⟨hm, hM'⟩ := nodup_cons.mp hM
    have : M'.filter (· ∈ m :: L) = M'.filter (· ∈ L) :=
      filter_congr fun x hx => by simp [show x ≠ m from fun e => hm (e ▸ hx)]
    rw [filter_cons, if_pos (by simp), this, ih hM']

theorem filter_mem_comm {α} [DecidableEq α] {M L W : List α} (hM : M.Nodup) (hL : L.Sublist M) (hW : W.Sublist M) :
    L.filter (· ∈ W) = W.filter (· ∈ L) :=
  calc L.filter (· ∈ W)
      = (M.filter (· ∈ L)).filter (· ∈ W) := by rw [filter_mem_of_sublist hM hL]
    _ = (M.filter (· ∈ W)).filter (· ∈ L) := by
        rw [filter_filter, filter_filter]; exact filter_congr fun x _ => Bool.and_comm _ _
    _ = W.filter (· ∈ L) := by rw [filter_mem_of_sublist hM hW]

end List

namespace Distill

theorem foldl_inv_prefix {α β : Type} (P : List α → β → Prop) (f : β → α → β) (l : List α) (b : β)
    (h0 : P [] b) (hstep : ∀ pre a post b, l = pre ++ a :: post → P pre b → P (pre ++ [a]) (f b a)) :
    P l (l.foldl f b) := by
  suffices ∀ post pre b, l = pre ++ post → P pre b → P l (post.foldl f b) from this l [] b rfl h0
  intro post
  induction post with
  | nil => intro pre b e h; simpa [e] using h
  | cons a post ih =>
    intro pre b e h
    exact ih (pre ++ [a]) (f b a) (by simpa using e) (hstep pre a post b e h)

theorem foldl_inv {α β : Type} (P : β → Prop) (f : β → α → β) (l : List α) (b : β)
    (h0 : P b) (hstep : ∀ b a, a ∈ l → P b → P (f b a)) : P (l.foldl f b) :=
  foldl_inv_prefix (fun _ => P) f l b h0 fun _ a _ b e => hstep b a (by simp [e])

theorem forall_mem_snoc {α} {p : α → Prop} {l : List α} {a : α} :
    (∀ x ∈ l ++ [a], p x) ↔ (∀ x ∈ l, p x) ∧ p a := by
  simp [or_imp, forall_and]

/-- core's `iteInduction` with the motive explicit -/
theorem ite_cases {α : Sort _} (P : α → Prop) {c : Prop} [Decidable c] {a b : α} (ha : c → P a) (hb : ¬c → P b) :
    P (if c then a else b) :=
  iteInduction ha hb

theorem ite_both {α : Sort _} {P : α → Prop} {c : Prop} [Decidable c] {a b : α} (ha : P a) (hb : P b) :
    P (if c then a else b) :=
  ite_cases P (fun _ => ha) fun _ => hb

theorem ite_or_same {α} {a b : Prop} [Decidable a] [Decidable b] (x y : α) :
    (if a then x else if b then x else y) = if a ∨ b then x else y := by
  by_cases a <;> by_cases b <;> simp [*]

theorem ite_bind {α β} (p : Prop) [Decidable p] (a b : Option α) (f : α → Option β) :
    (if p then a else b).bind f = if p then a.bind f else b.bind f :=
  apply_ite (·.bind f) p a b

theorem of_ite_none {α : Type} {c : Prop} [Decidable c] {x : Option α} {y : α}
    (h : (if c then none else x) = some y) : x = some y := by
  split at h
  · cases h
  · exact h

theorem ite_some_eq_none {α} {c : Prop} [Decidable c] {a : α} {r : Option α} :
    (if c then some a else r) = none ↔ ¬c ∧ r = none := by
  split <;> simp [*]

theorem ite_some_ne {α} {c : Prop} [Decidable c] {a b : α} {r : Option α} (ha : a ≠ b) (hr : r ≠ some b) :
    (if c then some a else r) ≠ some b := by
  split
  · exact fun h => ha (Option.some.inj h)
  · exact hr

theorem isSome_bind {α β} {x : Option α} {f : α → Option β} (hx : x.isSome = true)
    (hf : ∀ a, x = some a → (f a).isSome = true) : (x >>= f).isSome = true := by
  cases x with
  | none => cases hx
  | some a => exact hf a rfl

theorem isSome_ite {α} {c : Prop} [Decidable c] {a b : Option α} (ha : c → a.isSome = true)
    (hb : ¬c → b.isSome = true) : (if c then a else b).isSome = true :=
  ite_cases (fun o => Option.isSome o = true) ha hb

/-- with core's string-literal simproc `String.reduceEq` for the side condition, `simp only` reads a
generated table without the kernel ever comparing two strings byte by byte -/
theorem lookup_cons_ne {α β} [BEq α] [LawfulBEq α] {k k' : α} {v : β} {t : List (α × β)} (h : k ≠ k') :
    List.lookup k ((k', v) :: t) = List.lookup k t := by
  rw [List.lookup_cons, beq_false_of_ne h]

end Distill
