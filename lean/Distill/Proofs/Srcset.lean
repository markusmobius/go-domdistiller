/-
  Proofs about `Model/Srcset.lean`: on a list of well-formed image candidates written in the usual
  way (`url d1 d2, url, url d`), the regular expression finds exactly the candidates' URLs, and the
  rewriting replaces exactly those URLs; on every string whatsoever, the pieces `FindAll` yields spell
  the string.
-/
import Distill.Model.Srcset
import Distill.Proofs.Basics
namespace Distill.Srcset

structure Cand where
  url : List Char
  descs : List (List Char)

def descText (ds : List (List Char)) : List Char := ds.flatMap (fun d => ' ' :: d)
def candText (c : Cand) : List Char := c.url ++ descText c.descs

def render : List Cand → List Char
  | [] => []
  | [c] => candText c
  | c :: c' :: cs => candText c ++ ',' :: ' ' :: render (c' :: cs)

/-- a descriptor the regular expression knows: the whole token is one `[\d.]+(?:e[+-]?\d+)?[xwh]` -/
def WFDesc (d : List Char) : Prop := descLen .start d = some d.length

/-- the last two conditions: after a bare `url, ` the next URL must not be taken for that candidate's
comma or descriptor (`matchRun_bare`) -/
def WFUrl (u : List Char) : Prop :=
  u ≠ [] ∧ (∀ c ∈ u, isWS c = false) ∧ u.head? ≠ some ',' ∧ descLen .start u = none

def WFCand (c : Cand) : Prop := WFUrl c.url ∧ ∀ d ∈ c.descs, WFDesc d

def isSep (c : Char) : Bool := isWS c || c == ','

theorem sep_cases {c : Char} (h : isSep c = true) :
    isDigitDot c = false ∧ isUnit c = false ∧ isE c = false ∧ isSign c = false ∧ c.isDigit = false := by
  simp only [isSep, isWS, Bool.or_eq_true, beq_iff_eq] at h
  rcases h with ((((rfl | rfl) | rfl) | rfl) | rfl) | rfl <;> decide

/-- one move of the descriptor automaton: `some (some q')` = go on in `q'`, `some none` = accept here,
`none` = the character is refused -/
def step : DS → Char → Option (Option DS)
  | .start, c => if isDigitDot c then some (some .mant) else none
  | .mant, c => if isDigitDot c then some (some .mant) else if isUnit c then some none else if isE c then some (some .e) else none
  | .e, c => if c.isDigit then some (some .exp) else if isSign c then some (some .sign) else none
  | .sign, c => if c.isDigit then some (some .exp) else none
  | .exp, c => if c.isDigit then some (some .exp) else if isUnit c then some none else none

theorem descLen_cons (q : DS) (c : Char) (cs : List Char) :
    descLen q (c :: cs) = (step q c).bind fun | some q' => (descLen q' cs).map (· + 1) | none => some 1 := by
  cases q <;> simp only [descLen, step, ite_bind, Option.bind_some, Option.bind_none]

theorem descLen_nil (q : DS) : descLen q [] = none := by cases q <;> rfl

theorem step_sep (q : DS) {c : Char} (h : isSep c = true) : step q c = none := by
  obtain ⟨h1, h2, h3, h4, h5⟩ := sep_cases h
  cases q <;> simp [step, h1, h2, h3, h4, h5]

/-- What follows `u` does not change how `u` reads: an accepted descriptor does not look past its end, and
a rejected one stays rejected when a separator follows, since every state refuses a separator (`step_sep`). -/
theorem descLen_append (u t : List Char) :
    ∀ q, (descLen q u).isSome = true ∨ (∀ c ∈ t.head?, isSep c = true) → descLen q (u ++ t) = descLen q u := by
  induction u with
  | nil =>
    intro q h
    rw [descLen_nil] at h ⊢
    cases t with
    | nil => exact descLen_nil q
    | cons c t' => rw [List.nil_append, descLen_cons, step_sep q (h.resolve_left (by simp) c rfl)]; rfl
  | cons a u ih =>
    intro q h
    rw [List.cons_append, descLen_cons, descLen_cons] at *
    refine Option.bind_congr fun o ho => ?_
    cases o with
    | none => rfl
    | some q' =>
      rw [ho] at h
      exact congrArg (Option.map (· + 1)) (ih q' (h.imp_left (by simp)))

theorem wfdesc_cons {d : List Char} (h : WFDesc d) : ∃ c cs, d = c :: cs ∧ isWS c = false := by
  cases d with
  | nil => rw [WFDesc, descLen_nil] at h; cases h
  | cons c cs =>
    refine ⟨c, cs, rfl, ?_⟩
    cases hw : isWS c
    · rfl
    · rw [WFDesc, descLen_cons, step_sep _ (by simp [isSep, hw])] at h; cases h

theorem isWS_space : isWS ' ' = true := by decide
theorem isWS_comma : isWS ',' = false := by decide

theorem takeDescs_stop (t : List Char) (ht : ∀ c ∈ t.head?, isWS c = false) (fuel : Nat) :
    takeDescs fuel t = ([], t) := by
  cases fuel with
  | zero => rfl
  | succ f =>
    cases t with
    | nil => rfl
    | cons c t' => simp [takeDescs, ht c rfl]

theorem takeDescs_step (d rest : List Char) (hd : WFDesc d) (fuel : Nat) :
    takeDescs (fuel + 1) (' ' :: d ++ rest) = (' ' :: d ++ (takeDescs fuel rest).1, (takeDescs fuel rest).2) := by
  have hlen : descLen .start (d ++ rest) = some d.length :=
    (descLen_append d _ _ (Or.inl (by rw [hd]; rfl))).trans hd
  obtain ⟨c, cs, rfl, hc⟩ := wfdesc_cons hd
  simp only [List.cons_append] at hlen ⊢
  simp [takeDescs, isWS_space, hc, hlen]

theorem takeDescs_descText (ds : List (List Char)) (hds : ∀ d ∈ ds, WFDesc d) (t : List Char)
    (ht : ∀ c ∈ t.head?, isWS c = false) :
    ∀ fuel, (descText ds ++ t).length ≤ fuel → takeDescs fuel (descText ds ++ t) = (descText ds, t) := by
  induction ds with
  | nil => exact fun fuel _ => takeDescs_stop t ht fuel
  | cons d ds ih =>
    intro fuel hf
    have e : descText (d :: ds) ++ t = ' ' :: d ++ (descText ds ++ t) := by simp [descText]
    rw [e] at hf ⊢
    cases fuel with
    | zero => simp at hf
    | succ f =>
      rw [takeDescs_step d _ (hds d (by simp)), ih (fun x hx => hds x (by simp [hx])) f (by simp at hf ⊢; omega)]
      simp [descText]

/-- a candidate followed by the end, or one with descriptors followed by a comma: the first attempt succeeds -/
theorem matchRun_cand (u : List Char) (ds : List (List Char)) (t : List Char)
    (hu : ∀ c ∈ u, isWS c = false) (hds : ∀ d ∈ ds, WFDesc d) (ht : ∀ c ∈ t.head?, c = ',')
    (h : ds ≠ [] ∨ t = []) :
    matchRun (u ++ (descText ds ++ t)) = some (⟨u, descText ds, [], !t.isEmpty⟩, t.tail) := by
  -- the run of non-space characters is the URL: white space or nothing follows it
  have hrun := List.span_append (p := fun c => !isWS c) (a := u) (b := descText ds ++ t) (by simpa using hu) (by
    cases ds with
    | nil => simp [descText, h.resolve_left (by simp)]
    | cons d ds => simp [descText, isWS_space])
  have htd := takeDescs_descText ds hds t (fun c hc => ht c hc ▸ isWS_comma) _ (Nat.le_refl _)
  simp only [matchRun, hrun.1, hrun.2, htd]
  cases t with
  | nil => rfl
  | cons c t' => simp [ht c rfl, isWS_comma]

theorem lastComma_go_snoc (cs : List Char) : ∀ i acc, lastComma.go i (cs ++ [',']) acc = some (i + cs.length) := by
  induction cs with
  | nil => intro i acc; simp [lastComma.go]
  | cons c cs ih =>
    intro i acc
    simp only [List.cons_append, lastComma.go, ih, List.length_cons]
    congr 1; omega

theorem lastComma_snoc (u : List Char) (h : u ≠ []) : lastComma (u ++ [',']) = some u.length := by
  cases u with
  | nil => exact absurd rfl h
  | cons c cs =>
    simp only [List.cons_append, lastComma, lastComma_go_snoc, List.length_cons]
    congr 1; omega

/-- `url, next`: the run is `url,`; the first attempt fails at the next URL, which neither reads as a
descriptor nor starts with a comma; the last comma of the run decides -/
theorem matchRun_bare (u next : List Char) (hne : u ≠ []) (hu : ∀ c ∈ u, isWS c = false)
    (hnext : descLen .start next = none) (hhead : ∃ a r, next = a :: r ∧ isWS a = false ∧ a ≠ ',') :
    matchRun (u ++ ',' :: ' ' :: next) = some (⟨u, [], [], true⟩, ' ' :: next) := by
  obtain ⟨a, r, rfl, haws, hac⟩ := hhead
  have hrun := List.span_append (p := fun c => !isWS c) (a := u ++ [',']) (b := ' ' :: a :: r)
    (by simpa [or_imp, forall_and, isWS_comma] using hu)
    (by simp [isWS_space])
  have hsp : (' ' :: a :: r).takeWhile isWS = [' '] ∧ (' ' :: a :: r).dropWhile isWS = a :: r :=
    List.span_append (a := [' ']) (by simp [isWS_space]) (by simp [haws])
  have htd : takeDescs (' ' :: a :: r).length (' ' :: a :: r) = ([], ' ' :: a :: r) := by
    simp only [List.length_cons, takeDescs, hsp.1, hsp.2, hnext]
    rfl
  have e : u ++ ',' :: ' ' :: a :: r = (u ++ [',']) ++ (' ' :: a :: r) := by simp
  rw [e]
  simp only [matchRun, hrun.1, hrun.2, htd, hsp.2, lastComma_snoc u hne]
  simp [hac]

theorem render_cons (c : Cand) (cs : List Cand) :
    render (c :: cs) = c.url ++ (descText c.descs ++ match cs with | [] => [] | c' :: cs' => ',' :: ' ' :: render (c' :: cs')) := by
  cases cs <;> simp [render, candText]

/-- what `FindAll` yields on a candidate list -/
def expected : List Cand → List Piece
  | [] => []
  | [c] => [.m ⟨c.url, descText c.descs, [], false⟩]
  | c :: c' :: cs => .m ⟨c.url, descText c.descs, [], true⟩ :: .lit ' ' :: expected (c' :: cs)

theorem render_head (c : Cand) (cs : List Cand) (hc : WFCand c) :
    descLen .start (render (c :: cs)) = none ∧ ∃ a r, render (c :: cs) = a :: r ∧ isWS a = false ∧ a ≠ ',' := by
  obtain ⟨⟨hne, hws, hcomma, hnd⟩, _⟩ := hc
  rw [render_cons]
  constructor
  · rw [descLen_append _ _ _ (Or.inr _), hnd]
    cases c.descs <;> cases cs <;> simp [descText, isSep, isWS_space]
  · cases hu : c.url with
    | nil => exact absurd hu hne
    | cons a u => exact ⟨a, _, rfl, hws a (by simp [hu]), fun h => hcomma (by simp [hu, h])⟩

theorem matchRun_render (c : Cand) (cs : List Cand) (h : ∀ x ∈ c :: cs, WFCand x) :
    matchRun (render (c :: cs)) = some (⟨c.url, descText c.descs, [], !cs.isEmpty⟩,
      match cs with | [] => [] | c' :: cs' => ' ' :: render (c' :: cs')) := by
  obtain ⟨⟨hne, hws, _, _⟩, hds⟩ := h c (by simp)
  rw [render_cons]
  cases cs with
  | nil => exact matchRun_cand _ _ [] hws hds (by simp) (Or.inr rfl)
  | cons c' cs' =>
    cases hd : c.descs with
    | nil =>
      obtain ⟨hnd', hhead'⟩ := render_head c' cs' (h c' (by simp))
      simpa [descText] using matchRun_bare c.url _ hne hws hnd' hhead'
    | cons d ds => exact hd ▸ matchRun_cand _ _ _ hws hds (by simp) (Or.inl (by simp [hd]))

theorem pieces_render (cs : List Cand) (h : ∀ c ∈ cs, WFCand c) :
    ∀ fuel, (render cs).length < fuel → pieces fuel (render cs) = expected cs := by
  induction cs with
  | nil => intro fuel _; cases fuel <;> rfl
  | cons c cs ih =>
    intro fuel hf
    obtain ⟨_, a, r, har, haws, _⟩ := render_head c cs (h c (by simp))
    have hm := matchRun_render c cs h
    rw [har] at hm ⊢
    cases cs with
    | nil =>
      obtain ⟨f, rfl⟩ : ∃ f, fuel = f + 1 := ⟨fuel - 1, by omega⟩
      simp only [pieces, haws, Bool.false_eq_true, ↓reduceIte, hm]
      cases f <;> rfl
    | cons c' cs' =>
      -- the match and the space after its comma take one unit of fuel each
      have hlen : (render (c' :: cs')).length + 2 ≤ (render (c :: c' :: cs')).length := by simp [render]
      obtain ⟨f, rfl⟩ : ∃ f, fuel = f + 2 := ⟨fuel - 2, by omega⟩
      simp [pieces, haws, hm, isWS_space, expected, ih (fun x hx => h x (by simp [hx])) f (by omega)]

theorem urls_render (cs : List Cand) (h : ∀ c ∈ cs, WFCand c) : urls (render cs) = cs.map (·.url) := by
  unfold urls
  rw [pieces_render cs h _ (Nat.lt_succ_self _)]
  clear h
  fun_induction expected cs with
  | case1 => rfl
  | case2 c => rfl
  | case3 c c' cs ih => simpa using ih

/-- the branch for a bare `url,` is no special case when the resolver keeps a comma at the end -/
theorem rewriteM_eq (abs : List Char → List Char) (x : M) (h : abs (x.url ++ [',']) = abs x.url ++ [',']) :
    rewriteM abs x = abs x.url ++ x.descs ++ x.ws ++ (if x.comma then [','] else []) := by
  unfold rewriteM
  split
  · rename_i hx
    simp only [Bool.and_eq_true, List.isEmpty_iff] at hx
    simp [hx, h]
  · rfl

/-- `hcomma`: a bare `url,` is matched again on its own, with the comma inside group 1, and
`makeSrcSetAbsolute` relies on the resolution keeping that comma; the check measures it on the real function -/
theorem rewrite_render (abs : List Char → List Char) (cs : List Cand) (h : ∀ c ∈ cs, WFCand c)
    (hcomma : ∀ c ∈ cs, abs (c.url ++ [',']) = abs c.url ++ [',']) :
    rewrite abs (render cs) = render (cs.map fun c => { c with url := abs c.url }) := by
  unfold rewrite
  rw [pieces_render cs h _ (Nat.lt_succ_self _)]
  clear h
  fun_induction expected cs with
  | case1 => rfl
  | case2 c => simp [rewriteM_eq, hcomma c, render, candText]
  | case3 c c' cs ih =>
    have ih' := ih fun x hx => hcomma x (by simp [hx])
    simp only [List.flatMap_cons, List.map_cons, render, candText] at ih' ⊢
    rw [ih']
    simp [rewriteM_eq, hcomma c]

/-! ### every string: the pieces `FindAll` yields spell it (so rewriting with the identity resolver returns
the value unchanged: `C06.srcset_nothing_lost`) -/
def M.text (x : M) : List Char := x.url ++ x.descs ++ x.ws ++ (if x.comma then [','] else [])

def Piece.text : Piece → List Char
  | .lit c => [c]
  | .m x => x.text

theorem takeDescs_concat : ∀ (fuel : Nat) (s : List Char), (takeDescs fuel s).1 ++ (takeDescs fuel s).2 = s := by
  intro fuel s
  fun_induction takeDescs fuel s with
  | case1 | case2 | case3 => rfl
  | case4 f s ws r hws n hn more ih =>
    rw [List.append_assoc, List.append_assoc, ih, List.take_append_drop, List.takeWhile_append_dropWhile]

theorem lastComma_go_eq (cs : List Char) : ∀ (i : Nat) (acc : Option Nat) (j : Nat), lastComma.go i cs acc = some j →
    acc = some j ∨ ∃ a b, cs = a ++ ',' :: b ∧ j = i + a.length := by
  intro i acc j h
  fun_induction lastComma.go i cs acc with
  | case1 => exact Or.inl h
  | case2 i c cs acc ih =>
    rcases ih h with h' | ⟨a, b, rfl, rfl⟩
    · split at h'
      · rename_i hc
        exact Or.inr ⟨[], cs, by simp [eq_of_beq hc], by cases h'; rfl⟩
      · exact Or.inl h'
    · exact Or.inr ⟨c :: a, b, rfl, by simp; omega⟩

theorem lastComma_spec (run : List Char) (j : Nat) (h : lastComma run = some j) :
    ∃ a b, run = a ++ ',' :: b ∧ a.length = j ∧ 0 < j := by
  cases run with
  | nil => cases h
  | cons c cs =>
    rcases lastComma_go_eq cs 1 none j h with h | ⟨a, b, rfl, rfl⟩
    · cases h
    · exact ⟨c :: a, b, rfl, by simp; omega, by omega⟩

theorem matchRun_concat (s : List Char) (x : M) (rest : List Char) (hrun : 0 < (s.takeWhile (fun c => !isWS c)).length)
    (h : matchRun s = some (x, rest)) : x.text ++ rest = s ∧ rest.length < s.length := by
  unfold matchRun at h
  simp only [] at h
  -- name the stretches the matcher cuts the string into; only how they add up matters
  have hsplit : s.takeWhile (fun c => !isWS c) ++ s.dropWhile (fun c => !isWS c) = s := List.takeWhile_append_dropWhile
  generalize s.takeWhile (fun c => !isWS c) = run at h hsplit hrun
  generalize s.dropWhile (fun c => !isWS c) = r1 at h hsplit
  have hd := takeDescs_concat r1.length r1
  generalize takeDescs r1.length r1 = d at h hd
  obtain ⟨d1, d2⟩ := d
  have hw : d2.takeWhile isWS ++ d2.dropWhile isWS = d2 := List.takeWhile_append_dropWhile
  generalize d2.takeWhile isWS = ws at h hw
  generalize d2.dropWhile isWS = r3 at h hw
  subst hsplit hd hw
  cases r3 with
  | nil => cases h; simp [M.text]; omega
  | cons c2 r4 =>
    simp only [] at h
    split at h
    · rename_i hc
      cases h
      simp [M.text, eq_of_beq hc]; omega
    · split at h
      · rename_i j hj
        cases h
        obtain ⟨a, b, rfl, rfl, ha⟩ := lastComma_spec _ j hj
        simp [M.text]; omega
      · cases h

theorem pieces_concat : ∀ (fuel : Nat) (s : List Char), s.length < fuel → (pieces fuel s).flatMap Piece.text = s := by
  intro fuel s hf
  fun_induction pieces fuel s with
  | case1 => simp at hf
  | case2 => rfl
  -- one character goes out as a literal: it is white space (case3), or no candidate matches here (case5)
  | case3 f c cs hws ih | case5 f c cs hws hm ih =>
    rw [List.flatMap_cons, ih (by simpa using hf)]; rfl
  | case4 f c cs hws x rest hm ih =>
    obtain ⟨hx, hlt⟩ := matchRun_concat (c :: cs) x rest (by simp [hws]) hm
    rw [List.flatMap_cons, ih (by omega)]
    exact hx

end Distill.Srcset
