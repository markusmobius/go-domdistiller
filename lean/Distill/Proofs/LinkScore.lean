/-
  Proofs about `Model/LinkScore.lean`: the vocabulary of Props/LinkScoreProps (`passes`, `quiet`, `ctx`),
  bounds on the parts of the score, and `verdict` / `findOutlink` read through `passes`, `candsOf`, `bannedOf`.
-/
import Distill.Model.LinkScore
import Distill.Proofs.Basics
namespace Distill.LinkScore

/-- the anchor gets past every filter of the loop -/
def passes (next : Bool) (F : Facts) : Bool :=
  F.absOK && F.hasPrefix && (!next || F.restHasDigit) && F.cleanOK &&
  !(F.eqCurrent || (next && F.eqFolder)) && !(F.text.utf8ByteSize > 25) &&
  !rxExtraneous F.text.toList && (!next || rxNumber F.remainder.toList)

/-- none of the text-driven adjustments of the score applies -/
def quiet (next : Bool) (F : Facts) : Bool :=
  !rxPagination (dataOf F) && !(rxFirstLast (dataOf F) && !own next F.text.toList) &&
  !(rxNegative (dataOf F) || rxExtraneous (dataOf F)) && !opp next (dataOf F) &&
  !rxExtraneous F.href.toList && !(F.text.utf8ByteSize > 10)

/-- what the anchor's surroundings and URL contribute, whatever its text -/
def ctx (F : Facts) : Int :=
  (if F.inFolder then 0 else -25) + parentScore false false F.parents +
  (if rxLinkPagination F.href.toList || rxPagination F.href.toList then 25 else 0)

theorem numBonus_le (next : Bool) (t : List Char) : numBonus next t ≤ 9 := by
  unfold numBonus
  dsimp only
  omega

theorem diffBonus_le (next : Bool) (F : Facts) : diffBonus next F ≤ 25 := by
  unfold diffBonus
  split <;> omega

theorem parentScore_ge (ps : List (String × String)) :
    ∀ pos neg, parentScore pos neg ps ≥ (if neg then 0 else -25) := by
  intro pos neg
  fun_induction parentScore pos neg ps with
  | case1 pos neg => cases neg <;> simp
  | case2 pos neg c i ps _ => cases neg <;> simp
  | case3 pos neg c i ps _ d hitPos hitNeg ih =>
    -- the penalty is taken only while `neg` is unset, and sets it
    have hN : (!neg && rxNegative d && !rxPositive d) = hitNeg := rfl
    clear_value hitPos hitNeg
    cases neg <;> cases hitNeg <;> simp at hN ih ⊢ <;> omega

theorem ctx_ge (F : Facts) (h : F.inFolder = true) : ctx F ≥ -25 := by
  unfold ctx
  have := parentScore_ge F.parents false false
  simp only [h, ↓reduceIte]
  omega

theorem filterOutcome_none_iff (next : Bool) (F : Facts) : filterOutcome next F = none ↔ passes next F = true := by
  cases next <;> simp [filterOutcome, passes, ite_some_eq_none, and_assoc]

theorem filterOutcome_ne_cand (next : Bool) (F : Facts) (sc : Int) : filterOutcome next F ≠ some (.cand sc) :=
  ite_some_ne nofun <| ite_some_ne nofun <| ite_some_ne nofun <| ite_some_ne nofun <| ite_some_ne nofun <|
  ite_some_ne nofun <| ite_some_ne nofun <| ite_some_ne nofun nofun

theorem verdict_cand_iff (next : Bool) (F : Facts) (sc : Int) :
    verdict next F = .cand sc ↔ passes next F = true ∧ score next F = sc := by
  rw [← filterOutcome_none_iff]
  unfold verdict
  cases h : filterOutcome next F with
  | none => simp
  | some v => simpa using fun e : v = .cand sc => filterOutcome_ne_cand next F sc (e ▸ h)

def bannedOf (next : Bool) (Fs : List Facts) : List String :=
  Fs.filterMap fun F => match verdict next F with | .banned => some F.href | _ => none

def candsOf (next : Bool) (Fs : List Facts) : List Pg.Cand :=
  Fs.filterMap fun F => match verdict next F with | .cand sc => some ⟨F.href, sc⟩ | _ => none

theorem findOutlink_eq (next : Bool) (Fs : List Facts) :
    findOutlink next Fs = Pg.prevNextResult (bannedOf next Fs) (candsOf next Fs) := rfl

theorem mem_bannedOf {next : Bool} {Fs : List Facts} {u : String} :
    u ∈ bannedOf next Fs ↔ ∃ F ∈ Fs, verdict next F = .banned ∧ F.href = u := by
  simp only [bannedOf, List.mem_filterMap]
  refine exists_congr fun F => and_congr_right fun _ => ?_
  cases verdict next F <;> simp

theorem mem_candsOf {next : Bool} {Fs : List Facts} {c : Pg.Cand} :
    c ∈ candsOf next Fs ↔ ∃ F ∈ Fs, verdict next F = .cand c.score ∧ F.href = c.href := by
  simp only [candsOf, List.mem_filterMap]
  refine exists_congr fun F => and_congr_right fun _ => ?_
  obtain ⟨h, s⟩ := c
  cases verdict next F <;> simp [eq_comm, and_comm]

end Distill.LinkScore
