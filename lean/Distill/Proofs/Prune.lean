/-
  Prune: the converter's `skipUnlikely` mode equals the default mode run on the tree from which the
  "unlikely" subtrees the converter reaches have been deleted (`skip_eq_prune`), under a stability
  hypothesis on the two tests of `visitElem` that look inside the subtree.

  `prune` mirrors `convertNode` (an element skipped by an earlier test is
  left alone, recursion into the children exactly when `visitElem` in skip mode returns `.descend`).
-/
import Distill.Model.Convert
namespace Distill
namespace Prune

/-- the unlikely-candidate test of `gateSkip`, for an element with ancestors `anc` -/
def unlikelyAt (A : CAtoms) (anc : List String) (id : Nat) (tag : String) (attrs : List Attr) : Bool :=
  (A.rxUnlikely id && !A.rxMaybe id && !anc.contains "table" && tag != "body" && tag != "a")
    || Gen.unlikelyRoles.contains (getAttr attrs "role")

/-- three of the four tests of `gateSkip` that come before the "unlikely" test (not visible / social / byline).  The
fourth, `A.foreignRaw`, is left out: such an element is skipped in both modes, so that `prune` deletes it as well
changes nothing (`gateSkip_cfg`). -/
def earlySkip (A : CAtoms) (id : Nat) (tag : String) (attrs : List Attr) : Bool :=
  !visible A id tag attrs ||
  (getAttr attrs "class" == "sharing" || getAttr attrs "class" == "socialArea" ||
    getAttr attrs "data-component" == "share") ||
  A.byline id

/-- the converter (in skip mode) reaches the "unlikely" test at this element, or has skipped it before as foreign
raw text, and the test fires -/
def removedAt (A : CAtoms) (anc : List String) (id : Nat) (tag : String) (attrs : List Attr) : Bool :=
  !earlySkip A id tag attrs && unlikelyAt A anc id tag attrs

def rootRemoved (A : CAtoms) (anc : List String) : Node → Bool
  | .elem i t a _ => removedAt A anc i t a
  | _ => false

/-- the "single text child" test of the `javascript:` anchor branch -/
def singleText : List Node → Bool
  | [.text _ _] => true
  | _ => false

/- `visitElem` is kept opaque for the elaborator while the recursive definitions and their equation
   lemmas are generated (otherwise `whnf` runs into the generated string tables); the lemmas below use
   `unfold visitElem` explicitly. -/
attribute [local irreducible] visitElem

mutual
/-- delete, top-down, every element subtree at which the converter (skip mode) applies the unlikely test
    and the test fires; mirrors `convertNode` -/
def prune (A : CAtoms) (anc : List String) (hasParent : Bool) : Node → Node
  | .elem i t a ks =>
    match visitElem { skipUnlikely := true } A anc hasParent i t a ks with
    | .descend _ _ t' => .elem i t a (pruneL A (t' :: anc) ks)
    | _ => .elem i t a ks
  | .text i d => .text i d
  | .other i k => .other i k
def pruneL (A : CAtoms) (anc : List String) : List Node → List Node
  | [] => []
  | k :: ks =>
    if rootRemoved A anc k then pruneL A anc ks
    else prune A anc true k :: pruneL A anc ks
end

/-- the two subtree-inspecting tests of `visitElem` give the same answer on `ks` and `ks'` -/
def KidsStable (A : CAtoms) (hasParent : Bool) (i : Nat) (t : String) (a : List Attr)
    (ks ks' : List Node) : Prop :=
  (emptyContainerTag t = true →
      withoutContent A (.elem i t a ks) = withoutContent A (.elem i t a ks')) ∧
  ((t == "a" && strHasPrefix (getAttr a "href") "javascript:" && hasParent) = true →
      singleText ks = singleText ks')

mutual
/-- stability hypothesis, stated along the traversal of the converter in skip mode: at every element
    into which the converter descends, `withoutContent` (if the tag is an empty-container tag) and the
    single-text-child test (if it is a `javascript:` anchor with a parent) are unchanged by pruning. -/
def Stable (A : CAtoms) (anc : List String) (hasParent : Bool) : Node → Prop
  | .elem i t a ks =>
    match visitElem { skipUnlikely := true } A anc hasParent i t a ks with
    | .descend _ _ t' =>
        KidsStable A hasParent i t a ks (pruneL A (t' :: anc) ks) ∧ StableL A (t' :: anc) ks
    | _ => True
  | .text _ _ => True
  | .other _ _ => True
def StableL (A : CAtoms) (anc : List String) : List Node → Prop
  | [] => True
  | k :: ks => (rootRemoved A anc k = false → Stable A anc true k) ∧ StableL A anc ks
end

theorem gateSkip_cfg (cfg : CCfg) (A : CAtoms) (anc : List String)
    (i : Nat) (t : String) (a : List Attr) (ks : List Node) :
    gateSkip cfg A anc i t a ks =
      ((cfg.skipUnlikely && removedAt A anc i t a) ||
        gateSkip { skipUnlikely := false } A anc i t a ks) := by
  unfold gateSkip removedAt earlySkip unlikelyAt
  generalize (A.rxUnlikely i && !A.rxMaybe i && !anc.contains "table" && t != "body" && t != "a" ||
                    Gen.unlikelyRoles.contains (getAttr a "role")) = u
  generalize (getAttr a "class" == "sharing" || getAttr a "class" == "socialArea" ||
              getAttr a "data-component" == "share") = s
  cases visible A i t a <;> cases s <;> cases A.byline i <;> cases cfg.skipUnlikely <;> cases u <;> simp

theorem visitElem_removed (A : CAtoms) (anc : List String) (hp : Bool)
    (i : Nat) (t : String) (a : List Attr) (ks : List Node) (h : removedAt A anc i t a = true) :
    visitElem { skipUnlikely := true } A anc hp i t a ks = Visit.skip := by
  unfold visitElem
  rw [gateSkip_cfg]
  simp [h]

theorem visitElem_not_removed (A : CAtoms) (anc : List String) (hp : Bool)
    (i : Nat) (t : String) (a : List Attr) (ks : List Node) (h : removedAt A anc i t a = false) :
    visitElem { skipUnlikely := true } A anc hp i t a ks =
      visitElem { skipUnlikely := false } A anc hp i t a ks := by
  unfold visitElem
  rw [gateSkip_cfg]
  simp [h]

theorem visitElem_congr (cfg : CCfg) (A : CAtoms) (anc : List String) (hp : Bool)
    (i : Nat) (t : String) (a : List Attr) (ks ks' : List Node)
    (h1 : emptyContainerTag t = true →
      withoutContent A (.elem i t a ks) = withoutContent A (.elem i t a ks'))
    (h2 : jsAnchorText hp t a ks = jsAnchorText hp t a ks') :
    visitElem cfg A anc hp i t a ks = visitElem cfg A anc hp i t a ks' := by
  have e1 : gateSkip cfg A anc i t a ks = gateSkip cfg A anc i t a ks' := by
    unfold gateSkip
    cases hE : emptyContainerTag t
    · simp only [Bool.false_and]
    · rw [h1 hE]
  unfold visitElem tagSwitch
  rw [e1, h2]

theorem singleText_true {l : List Node} (h : singleText l = true) : ∃ i d, l = [.text i d] := by
  match l, h with
  | [.text i d], _ => exact ⟨i, d, rfl⟩

theorem jsAnchorText_eq_none {hp : Bool} {t : String} {a : List Attr} {ks : List Node}
    (h : singleText ks = false) : jsAnchorText hp t a ks = none := by
  unfold jsAnchorText
  split
  · split
    · cases h
    · rfl
  · rfl

/-- a text node is never pruned: where the single-text-child test gives the same answer, `jsAnchorText` returns
the same text -/
theorem jsAnchorText_pruneL (A : CAtoms) (anc : List String) {hp : Bool} {t : String} {a : List Attr}
    (ks : List Node)
    (h : (t == "a" && strHasPrefix (getAttr a "href") "javascript:" && hp) = true →
      singleText ks = singleText (pruneL A anc ks)) :
    jsAnchorText hp t a ks = jsAnchorText hp t a (pruneL A anc ks) := by
  by_cases hc : (t == "a" && strHasPrefix (getAttr a "href") "javascript:" && hp) = true
  · cases hs : singleText ks
    · rw [jsAnchorText_eq_none hs, jsAnchorText_eq_none (h hc ▸ hs)]
    · obtain ⟨i, d, rfl⟩ := singleText_true hs
      simp [pruneL, rootRemoved, prune]
  · simp [jsAnchorText, hc]

theorem skip_removed (A : CAtoms) (anc : List String) (hp : Bool) (n : Node)
    (h : rootRemoved A anc n = true) :
    convertNode { skipUnlikely := true } A anc hp n = [] := by
  match n, h with
  | .elem i t a ks, h =>
    rw [convertNode_elem, visitElem_removed A anc hp i t a ks h]

mutual
theorem skip_eq_prune_node (A : CAtoms) (anc : List String) (hp : Bool) :
    (n : Node) → Stable A anc hp n → rootRemoved A anc n = false →
    convertNode { skipUnlikely := true } A anc hp n =
      convertNode { skipUnlikely := false } A anc hp (prune A anc hp n)
  | .text i d, _, _ => by rw [prune, convertNode_text, convertNode_text]
  | .other i k, _, _ => by rw [prune, convertNode_other, convertNode_other]
  | .elem i t a ks, hS, hR => by
    have hv := visitElem_not_removed A anc hp i t a ks hR
    rw [prune, convertNode_elem]
    rw [Stable] at hS
    cases hvis : visitElem { skipUnlikely := true } A anc hp i t a ks with
    | skip | emit => rw [convertNode_elem, ← hv, hvis]
    | descend pre post t' =>
      simp only [hvis] at hS ⊢
      -- default mode answers the same at the pruned children: `KidsStable` is all that `visitElem` reads of them
      rw [convertNode_elem, ← visitElem_congr _ A anc hp i t a ks _ hS.1.1 (jsAnchorText_pruneL A _ ks hS.1.2),
        ← hv, hvis]
      simp only []
      rw [skip_eq_prune A (t' :: anc) ks hS.2]
theorem skip_eq_prune (A : CAtoms) (anc : List String) :
    (ks : List Node) → StableL A anc ks →
    convertKids { skipUnlikely := true } A anc ks =
      convertKids { skipUnlikely := false } A anc (pruneL A anc ks)
  | [], _ => by rw [pruneL, convertKids_nil, convertKids_nil]
  | k :: ks, hS => by
    rw [StableL] at hS
    rw [pruneL, convertKids_cons]
    cases hR : rootRemoved A anc k
    · simp only [Bool.false_eq_true, ↓reduceIte]
      rw [convertKids_cons, skip_eq_prune_node A anc true k (hS.1 hR) hR, skip_eq_prune A anc ks hS.2]
    · simp only [↓reduceIte]
      rw [skip_removed A anc true k hR, skip_eq_prune A anc ks hS.2]
      rfl
end

/-- the same statement for a single root with a parent: a removed root contributes `[]` on both sides -/
theorem skip_eq_prune_root (A : CAtoms) (anc : List String) (n : Node) (h : StableL A anc [n]) :
    convertNode { skipUnlikely := true } A anc true n =
      convertKids { skipUnlikely := false } A anc (pruneL A anc [n]) := by
  have := skip_eq_prune A anc [n] h
  rw [convertKids_cons, convertKids_nil, List.append_nil] at this
  exact this

#print axioms skip_eq_prune
#print axioms skip_eq_prune_node
#print axioms skip_eq_prune_root

deriving instance DecidableEq for BEv

/-- atoms: everything visible (`display:block`), node 2 matches the "unlikely" regexp -/
def exA : CAtoms :=
  { styleDisplay := fun _ => "block", visHidden := fun _ => false, byline := fun _ => false,
    rxUnlikely := fun i => i == 2, rxMaybe := fun _ => false, embed := fun _ => .none,
    dataTable := fun _ => false, blank := fun _ => false, words := fun _ => 1 }

/-- `<div><p>hello</p><div class=unlikely>ad</div></div>` -/
def exGood : Node :=
  .elem 0 "div" [] [.elem 1 "p" [] [.text 10 "hello"], .elem 2 "div" [] [.text 20 "ad"]]

/-- `<div><div class=unlikely>ad</div></div>`: the marked subtree is the only content of the outer div -/
def exBad : Node :=
  .elem 0 "div" [] [.elem 2 "div" [] [.text 20 "ad"]]

example : prune exA [] false exGood = .elem 0 "div" [] [.elem 1 "p" [] [.text 10 "hello"]] := by
  with_unfolding_all rfl

example :
    convertNode { skipUnlikely := true } exA [] false exGood =
      convertNode { skipUnlikely := false } exA [] false (prune exA [] false exGood) := by
  decide +kernel

/-- the hypothesis of the theorem holds for `exGood` … -/
example : Stable exA [] false exGood := by
  with_unfolding_all
    refine ⟨⟨fun _ => ?_, fun h => ?_⟩, fun _ => ⟨⟨fun h => ?_, fun h => ?_⟩, fun _ => trivial, trivial⟩,
      fun h => ?_, trivial⟩
  · decide +kernel
  · decide +kernel
  · decide +kernel
  · decide +kernel
  · exact absurd h (by decide +kernel)

example : convertNode { skipUnlikely := true } exA [] false exGood ≠ [] := by
  decide +kernel

example : prune exA [] false exBad = .elem 0 "div" [] [] := by
  with_unfolding_all rfl

/-- without `Stable` the statement is false: the emptied wrapper is skipped in default mode -/
example :
    convertNode { skipUnlikely := true } exA [] false exBad ≠
      convertNode { skipUnlikely := false } exA [] false (prune exA [] false exBad) := by
  decide +kernel

/-- … and fails for `exBad` (by the theorem itself) -/
example : ¬ Stable exA [] false exBad := fun h =>
  absurd (skip_eq_prune_node exA [] false exBad h (by decide +kernel)) (by decide +kernel)

/-- `<div>x<a href="javascript:f()"><span class=unlikely></span>go</a></div>`: pruning the span turns the
    anchor into a single-text `javascript:` anchor, which default mode replaces by its text -/
def exBadA : Node :=
  .elem 0 "div" [] [.text 5 "x",
    .elem 1 "a" [⟨"href", "javascript:f()"⟩] [.elem 2 "span" [] [], .text 20 "go"]]

/-- the anchor clause of `Stable` is needed as well -/
example :
    convertNode { skipUnlikely := true } exA [] false exBadA ≠
      convertNode { skipUnlikely := false } exA [] false (prune exA [] false exBadA) := by
  decide +kernel

end Prune
end Distill
