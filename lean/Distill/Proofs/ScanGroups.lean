/-
  From the calls of the DOM scan to the groups: every page info in a group of `runOps ops` was added
  by an `add` call of `ops`.
-/
import Distill.Proofs.PageGroups
namespace Distill.Pg

def added (ops : List GOp) : List PInfo := ops.filterMap fun | .add p => some p | _ => none

theorem mem_added {ops : List GOp} {q : PInfo} : q ∈ added ops ↔ .add q ∈ ops := by
  refine List.mem_filterMap.trans ⟨?_, fun h => ⟨_, h, rfl⟩⟩
  rintro ⟨_ | p | _, ho, e⟩
  · cases e
  · cases e; exact ho
  · cases e

/-- everything the groups hold, and the remembered previous entry, satisfies `S` -/
def From (S : PInfo → Prop) (m : MG) : Prop :=
  (∀ g ∈ m.groups, ∀ q ∈ g.list, S q) ∧ (∀ q, m.prev = some q → S q)

theorem from_snoc_iff {S : PInfo → Prop} {ys : List PGroup} {g : PGroup} {pv : Option PInfo} :
    From S ⟨ys ++ [g], pv⟩ ↔ (∀ x ∈ ys, ∀ q ∈ x.list, S q) ∧ (∀ q ∈ g.list, S q) ∧ ∀ q, pv = some q → S q := by
  simp only [From, forall_mem_snoc, and_assoc]

theorem from_step (S : PInfo → Prop) (m : MG) (h : From S m) (o : GOp) (ho : ∀ p, o = .add p → S p) :
    From S (m.step o) := by
  rcases m.eq_nil_or_concat with ⟨pv, rfl⟩ | ⟨ys, g, pv, rfl⟩
  · cases o with
    | add p => exact h
    | cleanUp => exact h
    | addGroup => exact ⟨by simp [MG.step, MG.addGroup], nofun⟩
  obtain ⟨h1, h2, h3⟩ := from_snoc_iff.1 h
  cases o with
  | addGroup =>
    simp only [MG.step, MG.addGroup, List.getLast?_concat]
    exact ite_both h (from_snoc_iff.2 ⟨forall_mem_snoc.2 ⟨h1, h2⟩, List.forall_mem_nil _, nofun⟩)
  | cleanUp =>
    simp only [MG.step, MG.cleanUp, List.getLast?_concat, List.dropLast_concat]
    exact ite_both ⟨h1, h3⟩ h
  | add p =>
    have hp : S p := ho p rfl
    simp only [MG.step, MG.add, List.getLast?_concat, setLast_concat]
    generalize sign _ = d
    -- the last group becomes `[p]` or itself with `p` appended, or it stays and a new group follows it,
    -- which starts with the previous entry when the two numbers differ
    have last : ∀ l ds, (∀ q ∈ l, S q) → From S ⟨ys ++ [⟨l, ds⟩], some p⟩ :=
      fun _ _ hl => from_snoc_iff.2 ⟨h1, hl, by simpa using hp⟩
    have single := fun ds => last [p] ds (by simpa using hp)
    have snoc := last (g.list ++ [p]) d (forall_mem_snoc.2 ⟨h2, hp⟩)
    refine ite_both (single _) (ite_both (ite_both ?_ snoc) (ite_both (single _) snoc))
    refine from_snoc_iff.2 ⟨forall_mem_snoc.2 ⟨h1, h2⟩, forall_mem_snoc.2 ⟨?_, hp⟩, by simpa using hp⟩
    split
    · cases pv with
      | none => exact List.forall_mem_nil _
      | some q => simpa using h3 q rfl
    · exact List.forall_mem_nil _

theorem runOps_groups_from_added (ops : List GOp) :
    ∀ g ∈ (runOps ops).groups, ∀ q ∈ g.list, q ∈ added ops :=
  (foldl_inv (From (· ∈ added ops)) MG.step ops {} ⟨List.forall_mem_nil _, nofun⟩ fun m o ho hm =>
    from_step _ m hm o fun _ e => mem_added.2 (e ▸ ho)).1

end Distill.Pg
