/-
  Proofs about `Model/Style.lean`: every spelling of a `display` declaration is read, any number of
  them cascade as CSS says; every spelling of `visibility: hidden | collapse` is recognised wherever
  it stands in the attribute.
-/
import Distill.Model.Style
import Distill.Proofs.Basics
namespace Distill.Style

/-- `s` is a spelling of the lower-case word `l` under `(?i)` -/
inductive FoldsTo : List Char → List Char → Prop
  | nil : FoldsTo [] []
  | cons {c x : Char} {s l : List Char} : foldEq c x = true → FoldsTo s l → FoldsTo (c :: s) (x :: l)

def AllWS (w : List Char) : Prop := ∀ c ∈ w, isWS c = true

theorem FoldsTo.ne_nil {s l : List Char} {x : Char} (h : FoldsTo s (x :: l)) : s ≠ [] := by
  cases h with
  | cons _ _ => exact List.cons_ne_nil _ _

theorem lit_append {s l : List Char} (h : FoldsTo s l) (r : List Char) : lit l (s ++ r) = some r := by
  induction h with
  | nil => cases r <;> rfl
  | cons hc _ ih => simp [lit, hc, ih]

theorem FoldsTo.of_lit : ∀ {l s : List Char}, lit l s = some [] → FoldsTo s l := by
  intro l s h
  fun_induction lit l s with
  | case1 => cases h; exact .nil
  | case2 | case4 => cases h
  | case3 x l c s hc ih => exact .cons hc (ih h)

theorem skipWS_append (w b : List Char) (hw : AllWS w) (hb : ∀ c ∈ b.head?, isWS c = false) :
    skipWS (w ++ b) = b := (List.span_append hw hb).2

theorem skipWS_cons {w : List Char} (hw : AllWS w) {c : Char} (hc : isWS c = false) (b : List Char) :
    skipWS (w ++ c :: b) = c :: b := skipWS_append w _ hw (by simpa using hc)

theorem skipWS_word {w a : List Char} (hw : AllWS w) (hne : a ≠ []) (ha : ∀ c ∈ a, isWS c = false) (b : List Char) :
    skipWS (w ++ (a ++ b)) = a ++ b :=
  skipWS_append w _ hw fun c hc => ha c (List.mem_of_mem_head? (by simpa [hne] using hc))

theorem ws_not_word {c : Char} (h : isWS c = true) : isWordDash c = false := by
  simp only [isWS, Bool.or_eq_true, beq_iff_eq] at h
  rcases h with (((rfl | rfl) | rfl) | rfl) | rfl <;> decide

theorem word_not_ws {c : Char} (h : isWordDash c = true) : isWS c = false := by
  cases hw : isWS c
  · rfl
  · rw [ws_not_word hw] at h; cases h

/-- one `display` declaration, every part spelled freely -/
structure Decl where
  name : List Char                 -- a spelling of "display"
  ws1 : List Char
  ws2 : List Char
  value : List Char
  ws3 : List Char
  imp : Option (List Char × List Char × List Char)   -- white space, a spelling of "important", white space

def Decl.tail (d : Decl) : List Char :=
  match d.imp with
  | none => []
  | some (w4, i, w5) => '!' :: w4 ++ i ++ w5

def Decl.text (d : Decl) : List Char :=
  d.name ++ d.ws1 ++ ':' :: d.ws2 ++ d.value ++ d.ws3 ++ d.tail ++ [';']

def Decl.WF (d : Decl) : Prop :=
  FoldsTo d.name "display".toList ∧ AllWS d.ws1 ∧ AllWS d.ws2 ∧ AllWS d.ws3 ∧
  d.value ≠ [] ∧ (∀ c ∈ d.value, isWordDash c = true) ∧
  match d.imp with
  | none => True
  | some (w4, i, w5) => AllWS w4 ∧ AllWS w5 ∧ FoldsTo i "important".toList ∧ ∀ c ∈ i, isWS c = false

def Decl.toMatch (d : Decl) : DMatch := ⟨d.value, d.imp.isSome⟩

theorem not_word_head {w : List Char} (hw : AllWS w) {c : Char} (hc : isWordDash c = false) (r : List Char) :
    ∀ x ∈ (w ++ c :: r).head?, isWordDash x = false := by
  cases w with
  | nil => simpa using hc
  | cons a _ => simpa using ws_not_word (hw a (by simp))

theorem displayAt_decl (d : Decl) (h : d.WF) (t : List Char) :
    displayAt (d.text ++ t) = some (d.toMatch, t) := by
  obtain ⟨name, ws1, ws2, value, ws3, imp⟩ := d
  obtain ⟨hn, h1, h2, h3, hv, hvw, himp⟩ := h
  have s1 := skipWS_cons h1 (c := ':') (by decide)
  have s2 := skipWS_word h2 hv fun c hc => word_not_ws (hvw c hc)
  -- the value is the maximal run of word characters: what follows it starts with white space, `!` or `;`
  have hval {c : Char} (r : List Char) (hc : isWordDash c = false) :=
    List.span_append hvw (not_word_head h3 hc r)
  have hne : value.isEmpty = false := by simpa using hv
  cases imp with
  | none =>
    have hval := hval (c := ';') t (by decide)
    -- the text, re-associated so that every stage peels one part
    simp only [Decl.text, Decl.tail, List.append_assoc, List.cons_append, List.nil_append]
    simp only [displayAt, lit_append hn, s1, s2, hval.1, hval.2, hne, skipWS_cons h3 (c := ';') (by decide)]
    rfl
  | some x =>
    obtain ⟨w4, i, w5⟩ := x
    obtain ⟨h4, h5, hi, hinws⟩ := himp
    have hval := hval (c := '!') (w4 ++ (i ++ (w5 ++ ';' :: t))) (by decide)
    simp only [Decl.text, Decl.tail, List.append_assoc, List.cons_append, List.nil_append]
    simp only [displayAt, lit_append hn, s1, s2, hval.1, hval.2, hne, skipWS_cons h3 (c := '!') (by decide),
      skipWS_word h4 hi.ne_nil hinws, lit_append hi, skipWS_cons h5 (c := ';') (by decide)]
    rfl

def render (ds : List Decl) : List Char := ds.flatMap Decl.text

theorem Decl.text_ne_nil (d : Decl) : d.text ≠ [] := by
  simp [Decl.text]

theorem displayAll_of_displayAt {s rest : List Char} {m : DMatch} (h : displayAt s = some (m, rest))
    (fuel : Nat) : displayAll (fuel + 1) s = m :: displayAll fuel rest := by
  cases s with
  | nil => cases h
  | cons c cs => simp only [displayAll, h]

theorem displayAll_render (ds : List Decl) (h : ∀ d ∈ ds, d.WF) :
    ∀ fuel, (render ds).length < fuel → displayAll fuel (render ds) = ds.map Decl.toMatch := by
  induction ds with
  | nil => intro fuel _; cases fuel <;> rfl
  | cons d ds ih =>
    intro fuel hf
    have hd := h d (by simp)
    have e : render (d :: ds) = d.text ++ render ds := List.flatMap_cons
    rw [e] at hf ⊢
    cases fuel with
    | zero => simp at hf
    | succ f =>
      have hpos := List.length_pos_iff.mpr d.text_ne_nil
      rw [displayAll_of_displayAt (displayAt_decl d hd _),
        ih (fun x hx => h x (by simp [hx])) f (by simp at hf; omega), List.map_cons]

/-- the record `cascade` builds, `⟨m.value, c.important || m.important⟩`, is `m` itself whenever it is taken -/
theorem cascade_cons (c m : DMatch) (ms : List DMatch) :
    cascade (some c) (m :: ms) = cascade (some (if m.important || !c.important then m else c)) ms := by
  obtain ⟨mv, mb⟩ := m
  cases mb <;> cases hc : c.important <;> simp [cascade, hc]

theorem cascade_some (c : DMatch) (ms : List DMatch) :
    cascade (some c) ms = (((c :: ms).filter (·.important)).getLast? <|> (c :: ms).getLast?) := by
  induction ms generalizing c with
  | nil => cases h : c.important <;> simp [cascade, h]
  | cons m ms ih =>
    rw [cascade_cons, ih, List.getLast?_cons_cons]
    cases hc : c.important
    · simp [hc]
    · cases hm : m.important
      · -- `c` stays and heads the important ones: the second alternative is not looked at
        simp [hc, hm, List.getLast?_cons (a := c)]
      · simp [hc, hm, List.getLast?_cons_cons]

theorem cascade_none (ms : List DMatch) :
    cascade none ms = ((ms.filter (·.important)).getLast? <|> ms.getLast?) := by
  cases ms with
  | nil => rfl
  | cons m ms => exact cascade_some m ms

theorem no_important {ds : List Decl} (h : ∀ x ∈ ds, x.imp = none) :
    (ds.map Decl.toMatch).filter (·.important) = [] := by
  rw [List.filter_eq_nil_iff]
  intro m hm
  obtain ⟨x, hx, rfl⟩ := List.mem_map.mp hm
  simp [Decl.toMatch, h x hx]

theorem visAt_spelled (name w1 w2 kw b : List Char) (hn : FoldsTo name "visibility".toList)
    (h1 : AllWS w1) (h2 : AllWS w2)
    (hk : (FoldsTo kw "hidden".toList ∨ FoldsTo kw "collapse".toList) ∧ ∀ c ∈ kw, isWS c = false ∧ c ≠ ':') :
    visAt (name ++ w1 ++ ':' :: w2 ++ kw ++ b) = true := by
  have hne : kw ≠ [] := hk.1.elim FoldsTo.ne_nil FoldsTo.ne_nil
  simp only [List.append_assoc, List.cons_append, visAt, lit_append hn, skipWS_cons h1 (c := ':') (by decide),
    skipWS_word h2 hne fun c hc => (hk.2 c hc).1]
  split
  · -- the key word does not begin with the stray colon
    rename_i r heq
    obtain ⟨k0, ks, rfl⟩ := List.exists_cons_of_ne_nil hne
    exact absurd (List.cons.inj heq).1 (hk.2 k0 (by simp)).2
  · rcases hk.1 with h | h <;> rw [lit_append h] <;> simp

theorem visHidden_append_left (a s : List Char) (h : visHidden s = true) : visHidden (a ++ s) = true := by
  induction a with
  | nil => exact h
  | cons c cs ih => simp [visHidden, ih]

theorem visHidden_of_visAt (s : List Char) (h : visAt s = true) : visHidden s = true := by
  cases s with
  | nil => simp [visAt, lit] at h
  | cons c cs => simp [visHidden, h]

end Distill.Style
