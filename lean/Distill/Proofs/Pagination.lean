/-
  Proofs about the pagination model (Model/Pagination.lean): provenance of the URLs in the
  detection result, for a predicate `Q` on URLs that is a variable, and the prev/next selection.

  `Ok Q pi`: every page URL of `pi`, and its `next`, satisfy `Q`.  The lemmas ask for `Q ""` because `nth`
  answers the default page info, whose URL is empty, out of range (`nth_Q`); `detect_src` discharges it by
  taking `u = "" ∨ Q u` for `Q`.
-/
import Distill.Model.Pagination
import Distill.Proofs.Basics
namespace Distill.Pg

def groupURLs' (gs : List PGroup) : List String := gs.flatMap (fun g => g.list.map (·.url))

def AllQ (Q : String → Prop) (l : List PInfo) : Prop := ∀ p ∈ l, Q p.url

def Ok (Q : String → Prop) (pi : ParamInfo) : Prop := AllQ Q pi.pages ∧ Q pi.next

def OkOpt (Q : String → Prop) : Option ParamInfo → Prop
  | none => True
  | some pi => Ok Q pi

def EvOk (Q : String → Prop) (r : Option ParamInfo × List PInfo) : Prop := OkOpt Q r.1 ∧ AllQ Q r.2

theorem default_url : (default : PInfo).url = "" := rfl

variable {Q : String → Prop}

theorem nth_Q (h0 : Q "") {l : List PInfo} (hl : AllQ Q l) (i : Nat) : Q (nth l i).url := by
  unfold nth
  cases h : l[i]? with
  | none => simpa [default_url] using h0
  | some p => simpa using hl p (List.mem_of_getElem? h)

theorem AllQ_pair {a b : PInfo} (ha : Q a.url) (hb : Q b.url) : AllQ Q [a, b] := by
  simp [AllQ, ha, hb]

theorem setNum_AllQ {l : List PInfo} (hl : AllQ Q l) (i : Nat) (n : Int) : AllQ Q (setNum l i n) := by
  unfold setNum
  cases h : l[i]? with
  | none => simpa using hl
  | some p =>
    intro q hq
    rcases List.mem_or_eq_of_mem_set hq with hq | rfl
    · exact hl q hq
    · exact hl p (List.mem_of_getElem? h)

theorem pageNumbersState_next (h0 : Q "") {asc : List PInfo} (hl : AllQ Q asc) (links : List LinkInfo) :
    Q (pageNumbersState links asc).next := by
  unfold pageNumbersState
  -- `next` is set in one branch only, the gap between two consecutive numbers: to the entry after the gap
  simp only [apply_ite NumState.next, ite_self]
  exact ite_both h0 (ite_both (ite_both h0 (ite_both (nth_Q h0 hl _) h0)) h0)

theorem isPageNumberSequence_next {st : NumState} {asc : List PInfo} (hs : Q st.next) (hl : AllQ Q asc) :
    Q (isPageNumberSequence st asc).2 := by
  unfold isPageNumberSequence
  refine ite_cases (fun r : Bool × String => Q r.2) (fun _ => hs) fun _ => ?_
  refine ite_cases (fun r : Bool × String => Q r.2) (fun _ => hs) fun _ => ?_
  generalize hscan : List.foldl _ (true, false, st.next) asc = scan
  have hq : Q scan.2.2 := by
    rw [← hscan]
    refine foldl_inv (fun acc : Bool × Bool × String => Q acc.2.2) _ _ _ hs ?_
    rintro ⟨ok, hp, nx⟩ a ha hb
    -- the scan keeps `next` or takes the URL of the entry
    simp only [apply_ite Prod.snd, ite_self]
    exact ite_both hb (ite_both hb (ite_both (hl a ha) hb))
  simp only [apply_ite Prod.snd, ite_self]
  exact hq

theorem evaluate_ok (h0 : Q "") (A : Atoms) (key : String) (links : List LinkInfo) {asc : List PInfo}
    {first : String} (hl : AllQ Q asc) (hf : Q first) : EvOk Q (evaluate A key links asc first) := by
  unfold evaluate
  refine ite_both (ite_both ⟨trivial, hl⟩ ?_) ?_
  · -- two links or more, adjacent and consecutive: the pages are entries of `asc`, `next` is the sequence's
    have hq := isPageNumberSequence_next (pageNumbersState_next h0 hl links) hl
    generalize isPageNumberSequence (pageNumbersState links asc) asc = r at hq ⊢
    refine ite_both ⟨trivial, hl⟩ ⟨⟨fun p hp => ?_, hq⟩, hl⟩
    obtain ⟨l, _, rfl⟩ := List.mem_map.1 hp
    exact nth_Q h0 hl _
  · -- one link: the pages are the first page's URL and an entry of `asc'`
    split
    · have hl' := setNum_AllQ hl 1 2
      refine ite_both (ite_both ?_ ⟨trivial, hl'⟩) ⟨trivial, hl⟩
      exact ⟨⟨AllQ_pair hf (nth_Q h0 hl' _), ite_both (nth_Q h0 hl' _) h0⟩, hl'⟩
    · exact ⟨trivial, hl⟩

theorem compareAndUpdate_ok {ds st : DState} (h1 : OkOpt Q ds.best) (h2 : OkOpt Q st.best) :
    OkOpt Q (compareAndUpdate ds st).best := by
  unfold compareAndUpdate
  split
  · exact h2
  · dsimp only
    split
    · exact h2
    · split <;> exact h1
  · exact h1

theorem insertFirstPage_ok {pi : ParamInfo} {d : String} (h : Ok Q pi) (hd : Q d) :
    Ok Q (insertFirstPage pi d) :=
  ⟨List.forall_mem_cons.2 ⟨hd, h.1⟩, h.2⟩

theorem determineNext_go {l : List PInfo} {d : String} {has : Bool} {u : String}
    (h : determineNext.go d l has = some u) : ∃ p ∈ l, u = p.url := by
  fun_induction determineNext.go d l has with
  | case1 => simp at h
  | case2 x => exact ⟨x, by simp, by simpa using h.symm⟩
  | case3 _ x xs _ ih =>
    obtain ⟨p, hp, hu⟩ := ih h
    exact ⟨p, by simp [hp], hu⟩

theorem determineNext_ok {pi : ParamInfo} {d : String} (h : Ok Q pi) : Ok Q (determineNext pi d) := by
  unfold determineNext
  refine ite_both h ?_
  split
  · obtain ⟨p, hp, rfl⟩ := determineNext_go ‹_›
    exact ⟨h.1, h.1 p hp⟩
  · exact h

/-- Every URL that enters a page list comes from `nums`, from `A.docURL` (two partial pages linking to each
other) or from `trimPathSlash A.docURL` (`insertFirstPage`).  The proof follows the `let` chain of
`newDetectionState`: `AllQ Q` for `nums1`, for the pair `(nums2, outlinks2)`, `Q firstPageURL` through the
first fold, then `OkOpt Q best ∧ AllQ Q asc` through the fold over the candidates; the early exits are the
`of_ite_none`s. -/
theorem newDetectionState_ok (h0 : Q "") (A : Atoms) {nums : List PInfo} (desc : Bool) (acc : String)
    (hd : Q A.docURL) (ht : Q (trimPathSlash A.docURL)) (hl : AllQ Q nums) {st : DState}
    (h : newDetectionState A nums desc acc = some st) : OkOpt Q st.best := by
  unfold newDetectionState at h
  extract_lets outlinks nums1 at h
  have hl1 : AllQ Q nums1 := ite_both (fun p hp => hl p (List.mem_reverse.1 hp)) hl
  clear_value outlinks nums1
  replace h := of_ite_none h
  generalize hx : (if (_ : Bool) = true then _ else (nums1, outlinks)) = x at h
  have hl2 : AllQ Q x.1 := by
    rw [← hx]
    split
    · split
      · exact AllQ_pair hd (nth_Q h0 hl1 _)
      · exact AllQ_pair (nth_Q h0 hl1 _) hd
    · exact hl1
  clear hx
  obtain ⟨nums2, outlinks2⟩ := x
  dsimp only at h hl2
  replace h := of_ite_none (of_ite_none h)
  generalize hqc : List.foldl _ (([] : List (PatAtom × List LinkInfo)), "") _ = qc at h
  have hf : Q qc.2 := by
    rw [← hqc]
    refine foldl_inv (fun a : List (PatAtom × List LinkInfo) × String => Q a.2) _ _ _ h0 fun b a ha hb => ?_
    obtain ⟨i, _, rfl⟩ := List.mem_map.1 ha
    refine ite_cases (fun r : _ × String => Q r.2) (fun _ => hb) fun _ => ?_
    split
    · exact ite_cases (fun r : _ × String => Q r.2) (fun _ => hb) fun _ => ite_both (nth_Q h0 hl2 _) hb
    · exact hb
  clear hqc
  obtain ⟨cands0, firstPageURL⟩ := qc
  cases of_ite_none h
  refine (foldl_inv (fun r : DState × List PInfo => OkOpt Q r.1.best ∧ AllQ Q r.2) _ _ ({}, nums2) ⟨trivial, hl2⟩ ?_).1
  rintro ⟨st, asc⟩ ⟨p, links⟩ _ hb
  refine ite_cases (fun r : DState × List PInfo => OkOpt Q r.1.best ∧ AllQ Q r.2) (fun _ => hb) fun _ => ?_
  have hev := evaluate_ok h0 A p.key links hb.2 hf
  generalize evaluate A p.key links asc firstPageURL = r at hev ⊢
  obtain ⟨_ | pi, asc'⟩ := r
  · exact ⟨hb.1, hev.2⟩
  · have hins := insertFirstPage_ok hev.1 ht
    exact ⟨compareAndUpdate_ok hb.1 (ite_both hins (ite_both (ite_both hins hev.1) hev.1)), hev.2⟩

theorem Ok_default (h0 : Q "") : Ok Q {} := ⟨fun _ h => (nomatch h), h0⟩

theorem detectParamInfo_ok (h0 : Q "") (A : Atoms) (gs : List PGroup) (arg : String)
    (hd : Q A.docURL) (ht : Q (trimPathSlash A.docURL)) (hg : ∀ g ∈ gs, AllQ Q g.list) :
    Ok Q (detectParamInfo A gs arg) := by
  unfold detectParamInfo
  refine ite_both (Ok_default h0) ?_
  dsimp only
  generalize hds : List.foldl _ ({} : DState) gs = ds
  have hok : OkOpt Q ds.best := by
    rw [← hds]
    refine foldl_inv (fun ds : DState => OkOpt Q ds.best) _ _ {} trivial fun b g hgm hb => ?_
    split
    · exact hb
    split
    · exact compareAndUpdate_ok hb (newDetectionState_ok h0 A _ _ hd ht (hg g hgm) ‹_›)
    · exact hb
  match ds.best, hok with
  | none, _ => exact Ok_default h0
  | some b, hb => exact determineNext_ok hb

theorem dropJs_of {P : String → Prop} {x : String} (h : x = "" ∨ P x) :
    dropJs x = "" ∨ (isJs (dropJs x) = false ∧ P (dropJs x)) := by
  unfold dropJs
  split
  · exact Or.inl rfl
  · rename_i hj
    exact h.imp_right fun hp => ⟨Bool.eq_false_iff.2 hj, hp⟩

theorem numberPrevNextRaw_src {pi : ParamInfo} (h : Ok (fun u => u = "" ∨ Q u) pi) (s1 s2 : String) :
    let r := numberPrevNextRaw pi s1 s2
    (r.1 = "" ∨ Q r.1) ∧ (r.2 = "" ∨ (Q r.2 ∧ r.2 ≠ s1 ∧ r.2 ≠ s2)) := by
  -- the previous page is a page of `pi.pages` that `find?` accepted: it has no URL, or is not this page
  have other : ∀ p ∈ pi.pages, (p.url == s1 || p.url == s2) = false →
      p.url = "" ∨ (Q p.url ∧ p.url ≠ s1 ∧ p.url ≠ s2) :=
    fun p hp hne => (h.1 p hp).imp_right (⟨·, by simpa only [Bool.or_eq_false_iff, beq_eq_false_iff_ne] using hne⟩)
  unfold numberPrevNextRaw
  dsimp only
  split
  · exact ⟨Or.inl rfl, Or.inl rfl⟩
  split
  · split
    · rename_i p hp
      exact ⟨Or.inl rfl, other p (List.mem_reverse.1 (List.mem_of_find?_eq_some hp))
        (by simpa only [Bool.not_eq_true'] using List.find?_some hp)⟩
    · exact ⟨Or.inl rfl, Or.inl rfl⟩
  · split
    · rename_i p hp
      have hmem : p ∈ pi.pages := by
        have hm := List.mem_of_find?_eq_some hp
        split at hm
        · exact (List.takeWhile_sublist _).subset (List.mem_reverse.1 hm)
        · cases hm
      refine ⟨h.2, ?_⟩
      have hpred := List.find?_some hp
      rcases Bool.or_eq_true_iff.1 hpred with he | hne
      · exact Or.inl (beq_iff_eq.1 he)
      · exact other p hmem (by simpa only [Bool.not_eq_true'] using hne)
    · exact ⟨h.2, Or.inl rfl⟩

/-- `Q` is asked of the document URL in the two spellings the detection can put into the page list:
`A.docURL` (two partial pages linking to each other) and `trimPathSlash A.docURL` (`insertFirstPage`) -/
theorem detect_src (Q : String → Prop) (A : Atoms) (gs : List PGroup) (arg : String)
    (hd : Q A.docURL) (ht : Q (trimPathSlash A.docURL)) (hg : ∀ u ∈ groupURLs' gs, u = "" ∨ Q u) :
    Ok (fun u => u = "" ∨ Q u) (detectParamInfo A gs arg) :=
  detectParamInfo_ok (Or.inl rfl) A gs arg (Or.inr hd) (Or.inr ht) fun g hg' p hp =>
    hg _ (List.mem_flatMap.2 ⟨g, hg', List.mem_map.2 ⟨p, hp, rfl⟩⟩)

theorem numberPrevNext_src (Q : String → Prop) (A : Atoms) (gs : List PGroup) (arg s1 s2 : String)
    (hd : Q A.docURL) (ht : Q (trimPathSlash A.docURL)) (hg : ∀ u ∈ groupURLs' gs, u = "" ∨ Q u) :
    let r := numberPrevNext (detectParamInfo A gs arg) s1 s2
    (r.1 = "" ∨ (isJs r.1 = false ∧ Q r.1)) ∧ (r.2 = "" ∨ (isJs r.2 = false ∧ Q r.2 ∧ r.2 ≠ s1 ∧ r.2 ≠ s2)) := by
  have h := numberPrevNextRaw_src (detect_src Q A gs arg hd ht hg) s1 s2
  unfold numberPrevNext
  dsimp only
  exact ⟨dropJs_of h.1, dropJs_of (P := fun u => Q u ∧ u ≠ s1 ∧ u ≠ s2) h.2⟩

theorem number_links (A : Atoms) (gs : List PGroup) (arg s1 s2 : String) :
    let r := numberPrevNext (detectParamInfo A gs arg) s1 s2
    (r.1 = "" ∨ (isJs r.1 = false ∧ (r.1 ∈ groupURLs' gs ∨ r.1 = A.docURL ∨ r.1 = trimPathSlash A.docURL))) ∧
    (r.2 = "" ∨ (isJs r.2 = false ∧ (r.2 ∈ groupURLs' gs ∨ r.2 = A.docURL ∨ r.2 = trimPathSlash A.docURL) ∧ r.2 ≠ s1 ∧ r.2 ≠ s2)) :=
  numberPrevNext_src (fun u => u ∈ groupURLs' gs ∨ u = A.docURL ∨ u = trimPathSlash A.docURL) A gs arg s1 s2 (Or.inr (Or.inl rfl)) (Or.inr (Or.inr rfl)) fun _ hu => Or.inr (Or.inl hu)

/-! ### the prev/next selection: the best eligible candidate -/

def Elig (banned : List String) (c : Cand) : Prop := c.href ∉ banned ∧ c.score ≥ 50

def Top (banned : List String) (seen : List Cand) : Option Cand → Prop
  | none => ∀ c ∈ seen, ¬ Elig banned c
  | some r => r ∈ seen ∧ Elig banned r ∧ ∀ c ∈ seen, Elig banned c → c.score ≤ r.score

/-- the step of the fold in `pickTop`, named (`pickTop banned cs = cs.foldl (pickStep banned) none` by `rfl`) -/
def pickStep (banned : List String) (top : Option Cand) (c : Cand) : Option Cand :=
  if banned.contains c.href then top
  else if decide (c.score ≥ (50 : Int)) && (match top with | none => true | some t => decide (t.score < c.score)) then some c
  else top

theorem pickStep_of_not_elig {banned : List String} {c : Cand} (h : ¬ Elig banned c) (top : Option Cand) :
    pickStep banned top c = top := by
  unfold pickStep
  by_cases hb : c.href ∈ banned
  · simp [hb]
  · simp [show ¬ c.score ≥ 50 from fun hs => h ⟨hb, hs⟩]

theorem pickStep_of_elig {banned : List String} {c : Cand} (h : Elig banned c) (top : Option Cand) :
    pickStep banned top c = match top with
      | none => some c
      | some t => if t.score < c.score then some c else some t := by
  unfold pickStep
  cases top <;> simp [h.1, show c.score ≥ 50 from h.2]

theorem pickTop_top (banned : List String) (cs : List Cand) : Top banned cs (pickTop banned cs) := by
  unfold pickTop
  apply foldl_inv_prefix (Top banned)
  · exact List.forall_mem_nil _
  · intro seen c _ top _ ih
    show Top banned (seen ++ [c]) (pickStep banned top c)
    by_cases he : Elig banned c
    · rw [pickStep_of_elig he]
      cases top with
      | none => exact ⟨by simp, he, forall_mem_snoc.2 ⟨fun x hx h => absurd h (ih x hx), fun _ => Int.le_refl _⟩⟩
      | some r =>
        obtain ⟨hr, her, hmax⟩ := ih
        dsimp only
        split
        · exact ⟨by simp, he, forall_mem_snoc.2 ⟨fun x hx h => by have := hmax x hx h; omega, fun _ => Int.le_refl _⟩⟩
        · exact ⟨by simp [hr], her, forall_mem_snoc.2 ⟨hmax, fun _ => by omega⟩⟩
    · rw [pickStep_of_not_elig he]
      cases top with
      | none => exact forall_mem_snoc.2 ⟨ih, he⟩
      | some r => exact ⟨by simp [ih.1], ih.2.1, forall_mem_snoc.2 ⟨ih.2.2, fun h => absurd h he⟩⟩

theorem prevNextResult_spec (banned : List String) (cs : List Cand) :
    (prevNextResult banned cs = "" ∧ ∀ c ∈ cs, ¬ Elig banned c) ∨
    ∃ r ∈ cs, prevNextResult banned cs = r.href ∧ Elig banned r ∧ ∀ c ∈ cs, Elig banned c → c.score ≤ r.score := by
  have h := pickTop_top banned cs
  unfold prevNextResult
  generalize pickTop banned cs = top at h ⊢
  cases top with
  | none => exact Or.inl ⟨rfl, h⟩
  | some r => exact Or.inr ⟨r, h.1, rfl, h.2⟩

theorem prevnext_is_candidate (banned : List String) (cs : List Cand) :
    prevNextResult banned cs = "" ∨
    ∃ c ∈ cs, c.href = prevNextResult banned cs ∧ c.score ≥ 50 ∧ c.href ∉ banned := by
  rcases prevNextResult_spec banned cs with ⟨h, _⟩ | ⟨r, hr, h, he, _⟩
  · exact Or.inl h
  · exact Or.inr ⟨r, hr, h.symm, he.2, he.1⟩

theorem prevnext_max (banned : List String) (cs : List Cand) (c' : Cand)
    (hm : c' ∈ cs) (hb : c'.href ∉ banned) (hs : c'.score ≥ 50) :
    ∃ c ∈ cs, c.href = prevNextResult banned cs ∧ c'.score ≤ c.score := by
  rcases prevNextResult_spec banned cs with ⟨_, hn⟩ | ⟨r, hr, h, _, hmax⟩
  · exact absurd ⟨hb, hs⟩ (hn c' hm)
  · exact ⟨r, hr, h.symm, hmax c' hm ⟨hb, hs⟩⟩

end Distill.Pg
