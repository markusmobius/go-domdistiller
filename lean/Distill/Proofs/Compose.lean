import Distill.Proofs.Convert
import Distill.Proofs.Basics
namespace Distill

/-! ## composing the selection of windows with their rendering

Windows are consecutive, disjoint slices of a sublist of the document-order list `M` of text and
`br` ids.  A Text element renders the text nodes `L.filter (· ∈ window)` where `L` (the text ids)
is itself a sublist of `M`.  Concatenating the renderings in element order then gives a sublist
of `L` again: nothing invented, nothing twice, nothing out of order. -/

theorem mem_of_sublist_mem {l m : List Nat} (h : l.Sublist m) {x : Nat} (hx : x ∈ l) : x ∈ m := h.subset hx

theorem filters_flatten {M L : List Nat} (hM : M.Nodup) (hL : L.Sublist M) (ws : List (List Nat))
    (hws : ws.flatten.Sublist M) :
    (ws.map (fun w => L.filter (· ∈ w))).flatten = L.filter (· ∈ ws.flatten) := by
  rw [List.filter_mem_comm hM hL hws, List.filter_flatten]
  congr 1
  exact List.map_congr_left fun w hw => List.filter_mem_comm hM hL ((List.sublist_flatten_of_mem hw).trans hws)

mutual
theorem textIds_sublist_brTextIds : (n : Node) → n.textIds.Sublist n.brTextIds
  | .text i d => by simp [Node.textIds, Node.brTextIds]
  | .other _ _ => by simp [Node.textIds, Node.brTextIds]
  | .elem i t a ks => by
    simp only [Node.textIds, Node.brTextIds]
    exact (textIdsL_sublist_brTextIdsL ks).trans (List.sublist_append_right _ _)
theorem textIdsL_sublist_brTextIdsL : (ks : List Node) → (textIdsL ks).Sublist (brTextIdsL ks)
  | [] => by simp [textIdsL, brTextIdsL]
  | k :: ks => by
    simp only [textIdsL, brTextIdsL]
    exact List.Sublist.append (textIds_sublist_brTextIds k) (textIdsL_sublist_brTextIdsL ks)
end

mutual
def relabel (k : Nat) : Node → Node
  | .text _ d => .text k d
  | .other _ kd => .other k kd
  | .elem _ t a ks => .elem k t a (relabelL (k + 1) ks)
def relabelL (k : Nat) : List Node → List Node
  | [] => []
  | n :: ns => relabel k n :: relabelL (k + n.size) ns
end

mutual
theorem relabel_allIds (k : Nat) : (n : Node) → (relabel k n).allIds = List.range' k n.size
  | .text _ _ => by simp [relabel, Node.allIds, Node.size]
  | .other _ _ => by simp [relabel, Node.allIds, Node.size]
  | .elem _ t a ks => by
    simp only [relabel, Node.allIds, Node.size]
    rw [relabelL_allIds (k + 1) ks]
    rw [Nat.add_comm 1 (sizeL ks), List.range'_succ]
theorem relabelL_allIds (k : Nat) : (ks : List Node) → allIdsL (relabelL k ks) = List.range' k (sizeL ks)
  | [] => by simp [relabelL, allIdsL, sizeL]
  | n :: ns => by
    simp only [relabelL, allIdsL, sizeL]
    rw [relabel_allIds k n, relabelL_allIds (k + n.size) ns]
    exact (List.range'_append_1 (s := k) (m := n.size) (n := sizeL ns)).symm ▸ rfl
end

mutual
theorem brTextIds_sublist_allIds : (n : Node) → n.brTextIds.Sublist n.allIds
  | .text i d => by simp [Node.brTextIds, Node.allIds]
  | .other _ _ => by simp [Node.brTextIds, Node.allIds]
  | .elem i t a ks => by
    simp only [Node.brTextIds, Node.allIds]
    split
    · exact List.Sublist.cons_cons i (brTextIdsL_sublist_allIdsL ks)
    · simpa using (brTextIdsL_sublist_allIdsL ks).trans (List.sublist_cons_self i _)
theorem brTextIdsL_sublist_allIdsL : (ks : List Node) → (brTextIdsL ks).Sublist (allIdsL ks)
  | [] => by simp [brTextIdsL, allIdsL]
  | k :: ks => by
    simp only [brTextIdsL, allIdsL]
    exact List.Sublist.append (brTextIds_sublist_allIds k) (brTextIdsL_sublist_allIdsL ks)
end

/-- **A tree numbered in document order has distinct ids**, so in particular its text-and-br ids
are distinct: the hypothesis of `C02.rendered_excerpt` holds for every tree the harness (or
anyone numbering nodes by position) hands to the model. -/
theorem relabel_brTextIds_nodup (k : Nat) (n : Node) : (relabel k n).brTextIds.Nodup := by
  have h := brTextIds_sublist_allIds (relabel k n)
  rw [relabel_allIds] at h
  exact h.nodup (List.nodup_range' (step := 1) (by omega))

end Distill
