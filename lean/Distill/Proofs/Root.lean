/-
  Root selection (Model/Root.lean): what `firstElem` finds is an element, and one of the tree.
-/
import Distill.Model.Root
namespace Distill

mutual
def Node.hasNode : Node → Node → Prop
  | .text _ _, _ => False
  | .other _ _, _ => False
  | .elem i t a ks, e => e = .elem i t a ks ∨ hasNodeL ks e
def hasNodeL : List Node → Node → Prop
  | [], _ => False
  | k :: ks, e => k.hasNode e ∨ hasNodeL ks e
end

mutual
theorem firstElem_spec (p : String → Bool) : (n e : Node) → n.firstElem p = some e → e.isElem = true ∧ n.hasNode e
  | .text _ _, _, h => nomatch h
  | .other _ _, _, h => nomatch h
  | .elem i t a ks, e, h => by
    rw [Node.firstElem] at h
    split at h
    · cases h; exact ⟨rfl, .inl rfl⟩
    · exact (firstElemL_spec p ks e h).imp_right .inr
theorem firstElemL_spec (p : String → Bool) : (ks : List Node) → (e : Node) → firstElemL p ks = some e →
    e.isElem = true ∧ hasNodeL ks e
  | [], _, h => nomatch h
  | k :: ks, e, h => by
    rw [firstElemL] at h
    split at h
    · cases h; exact (firstElem_spec p k _ ‹_›).imp_right .inl
    · exact (firstElemL_spec p ks e h).imp_right .inr
end

theorem firstElem_isElem (p : String → Bool) : (n e : Node) → n.firstElem p = some e → e.isElem = true :=
  fun n e h => (firstElem_spec p n e h).1
theorem firstElemL_isElem (p : String → Bool) : (ks : List Node) → (e : Node) → firstElemL p ks = some e → e.isElem = true :=
  fun ks e h => (firstElemL_spec p ks e h).1

theorem applyRoot_isElem (doc : Node) (docKids : List Node) (r : Node) (h : applyRoot doc docKids = some r) :
    r.isElem = true := by
  unfold applyRoot at h
  split at h
  · cases h; assumption
  · exact firstElemL_isElem _ docKids r h

theorem extractorRoot_isElem (root : Node) (h : root.isElem = true) : (extractorRoot root).isElem = true := by
  unfold extractorRoot queryDesc
  cases hq : firstElemL (fun t => t == "html") root.kids with
  | none => exact h
  | some e => exact firstElemL_isElem _ root.kids e hq

theorem firstElem_mem (p : String → Bool) : (n e : Node) → n.firstElem p = some e → n.hasNode e :=
  fun n e h => (firstElem_spec p n e h).2
theorem firstElemL_mem (p : String → Bool) : (ks : List Node) → (e : Node) → firstElemL p ks = some e → hasNodeL ks e :=
  fun ks e h => (firstElemL_spec p ks e h).2

end Distill
