import Distill.Proofs.Convert
import Distill.Model.DocFilters
namespace Distill

/-! ## Placeholder depth, from the converter's events through the builder to the retainer's stack

What `C01.retainer_never_panics` rests on: the events' tags are balanced (`tagRun`), the builder hands them through,
and on a balanced list `rstep` never pops an empty stack. -/

/-- **The builder hands tags, tables and media through unchanged and in order.** -/
theorem buildDoc_nonText (evs : List BEv) : nonTextOf (buildDoc evs) = evNonText evs := by
  unfold buildDoc
  rw [(flushBlock_flushed _).1.nonText, brun_nonText]
  exact List.append_nil _

/-- nesting depth of the placeholders in a document; `none` = an end without a start -/
def depthDoc : Nat → List DocEl → Option Nat
  | d, [] => some d
  | d, .tag _ true :: r => depthDoc (d + 1) r
  | d, .tag _ false :: r => match d with
    | 0 => none
    | d + 1 => depthDoc d r
  | d, _ :: r => depthDoc d r

theorem depthDoc_nonText (d : Nat) (es : List DocEl) : depthDoc d (nonTextOf es) = depthDoc d es := by
  induction es generalizing d with
  | nil => rfl
  | cons x xs ih =>
    cases x with
    | tag n s => cases s <;> cases d <;> simp [nonTextOf, depthDoc, ih]
    | _ => simp [nonTextOf, depthDoc, ih]

theorem depth_of_tagRun (st st' : List String) (evs : List BEv) (h : tagRun st evs = some st') :
    depthDoc st.length (evNonText evs) = some st'.length := by
  fun_induction tagRun st evs with
  | case1 => cases h; rfl
  -- an end tag that does not match the open one, or with none open (case3 is the matching end tag)
  | case4 | case5 => cases h
  | _ => rename_i ih; simpa [evNonText, depthDoc] using ih h

/-- the element the document filters see for an element of the built document -/
def toElem : DocEl → Elem
  | .text t => { kind := .text, win := t.win, group := t.group }
  | .tag n true => { kind := .tagStart, name := n }
  | .tag n false => { kind := .tagEnd, name := n }
  | .table i => { kind := .table, node := i }
  | .media k i => { kind := k.toKind, node := i }

/-- `depthDoc` on the filters' elements -/
def depthElems : Nat → List Elem → Option Nat
  | d, [] => some d
  | d, e :: r =>
    match e.kind with
    | .tagStart => depthElems (d + 1) r
    | .tagEnd => (match d with | 0 => none | d + 1 => depthElems d r)
    | _ => depthElems d r

theorem rstep_total (s : RSt) (i : Nat) (e : Elem) (es : List Elem) (d' : Nat)
    (h : depthElems s.stack.length (e :: es) = some d') :
    ∃ s1 o1, rstep s (revOf i e) = some (s1, o1) ∧ depthElems s1.stack.length es = some d' := by
  simp only [depthElems] at h
  unfold revOf
  cases hk : e.kind <;> simp only [hk] at h ⊢
  case tagEnd =>
    cases hs : s.stack with
    | nil => simp [hs] at h
    | cons top rest => rw [hs] at h; exact ⟨_, _, by simp only [rstep, hs]; rfl, h⟩
  all_goals exact ⟨_, _, rfl, h⟩

/-- the retainer succeeds whenever the running depth never goes negative -/
theorem rrun_total (s : RSt) (i : Nat) (es : List Elem) (d' : Nat)
    (h : depthElems s.stack.length es = some d') :
    ∃ s' us, rrun s (revsFrom i es) = some (s', us) ∧ s'.stack.length = d' := by
  fun_induction revsFrom i es generalizing s with
  | case1 => simp [depthElems] at h; exact ⟨s, [], by simp [rrun], h⟩
  | case2 i e es ih =>
    obtain ⟨s1, o1, h1, h2⟩ := rstep_total s i e es d' h
    obtain ⟨s', us, h3, h4⟩ := ih s1 h2
    exact ⟨s', o1 ++ us, by simp only [rrun, h1, h3], h4⟩

end Distill
