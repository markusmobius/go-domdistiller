/-
  Proofs about the byte-level model of `PathComponentPagePattern.IsPagingURL`
  (Model/PathPattern.lean): no index or slice expression can be out of range.
-/
import Distill.Model.PathPattern
import Distill.Proofs.Basics
namespace Distill.PP

/-- what `construct` (`NewPathComponentPagePattern`) establishes about the stored fields -/
structure WF (pp : PathPat) : Prop where
  seg_nonneg : 0 ≤ pp.segStart
  seg_lt : pp.segStart < pp.pStart
  p_lt : pp.pStart < pp.str.length
  pre_len : (pp.pre.length : Int) = pp.segStart

theorem idx_isSome {s : Bytes} {i : Int} : (idx s i).isSome = true ↔ 0 ≤ i ∧ i < s.length := by
  unfold idx
  split <;> simp [*]

theorem slice_isSome {s : Bytes} {i j : Int} : (slice s i j).isSome = true ↔ 0 ≤ i ∧ i ≤ j ∧ j ≤ s.length := by
  unfold slice
  split <;> simp [*]

theorem sliceTo_isSome {s : Bytes} {j : Int} : (sliceTo s j).isSome = true ↔ 0 ≤ j ∧ j ≤ s.length := by
  simp [sliceTo, slice_isSome]

theorem sliceTo_eq_some {s h : Bytes} {j : Int} (hh : sliceTo s j = some h) :
    0 ≤ j ∧ j ≤ s.length ∧ (h.length : Int) = j := by
  have hb := sliceTo_isSome.1 (by rw [hh]; rfl)
  unfold sliceTo slice at hh
  rw [if_pos ⟨Int.le_refl 0, hb⟩] at hh
  cases hh
  simp only [List.length_take, List.length_drop]
  omega

theorem lastIndexSlash_go_range (l : Bytes) (i : Nat) (acc : Int) :
    lastIndexSlash.go l i acc = acc ∨
      ((i : Int) ≤ lastIndexSlash.go l i acc ∧ lastIndexSlash.go l i acc < (i : Int) + l.length) := by
  fun_induction lastIndexSlash.go l i acc with
  | case1 => left; rfl
  | case2 i acc b rest ih =>
    -- the rest of the list keeps what this byte leaves in `acc`, or finds a later slash
    simp only [List.length_cons]
    omega

theorem lastIndexSlash_range (s : Bytes) :
    -1 ≤ lastIndexSlash s ∧ lastIndexSlash s < s.length := by
  have := lastIndexSlash_go_range s 0 (-1)
  unfold lastIndexSlash
  omega

theorem indexPlaceholder_go_range (l : Bytes) (k : Nat) :
    indexPlaceholder.go l k = -1 ∨
      ((k : Int) ≤ indexPlaceholder.go l k ∧ indexPlaceholder.go l k + 4 ≤ (k : Int) + l.length) := by
  fun_induction indexPlaceholder.go l k with
  | case1 => left; rfl
  | case2 k b rest hp =>
    have := (List.isPrefixOf_iff_prefix.mp hp).length_le
    simp only [placeholder, List.length_cons, List.length_nil] at this ⊢
    omega
  | case3 k b rest _ ih =>
    simp only [List.length_cons]
    omega

theorem indexPlaceholder_range (s : Bytes) :
    indexPlaceholder s = -1 ∨ (0 ≤ indexPlaceholder s ∧ indexPlaceholder s + 4 ≤ s.length) := by
  have := indexPlaceholder_go_range s 0
  unfold indexPlaceholder
  omega

theorem hasPrefix_len {s p : Bytes} (h : hasPrefix s p = true) : p.length ≤ s.length :=
  (List.isPrefixOf_iff_prefix.mp h).length_le

theorem hasSuffix_len {s p : Bytes} (h : hasSuffix s p = true) : p.length ≤ s.length :=
  (List.isSuffixOf_iff_suffix.mp h).length_le

theorem firstDiff_some (pp : PathPat) (url : Bytes) (maxPos : Int)
    (hm1 : maxPos ≤ url.length) (hm2 : maxPos ≤ pp.str.length) (fuel : Nat) (pos : Int) (h0 : 0 ≤ pos) :
    ∃ d, firstDiff pp url pos maxPos fuel = some d ∧ pos ≤ d ∧ (d ≤ maxPos ∨ d = pos) := by
  fun_induction firstDiff pp url pos maxPos fuel with
  | case1 pos => exact ⟨pos, rfl, Int.le_refl _, Or.inr rfl⟩
  -- case2: `pos < maxPos` with fuel left; case1: out of fuel; case3: `pos` has reached `maxPos`
  | case2 pos n hlt ih =>
    -- url[firstDiffPos], strURL[firstDiffPos]
    obtain ⟨a, ha⟩ := Option.isSome_iff_exists.1 (idx_isSome.2 ⟨h0, (by omega : pos < url.length)⟩)
    obtain ⟨b, hb⟩ := Option.isSome_iff_exists.1 (idx_isSome.2 ⟨h0, (by omega : pos < pp.str.length)⟩)
    simp only [bind, pure, ha, hb, Option.bind_some]
    split
    · exact ⟨pos, rfl, Int.le_refl _, Or.inr rfl⟩
    · obtain ⟨d, hd, h1, h2⟩ := ih (by omega)
      exact ⟨d, hd, by omega, by omega⟩
  | case3 pos => exact ⟨pos, rfl, Int.le_refl _, Or.inr rfl⟩

theorem startOfComponent_total (pp : PathPat) (h : WF pp) (url : Bytes)
    (hs : pp.suf.length ≤ url.length) : (startOfComponent pp url).isSome = true := by
  obtain ⟨h_0, h_lt, h_p, h_pre⟩ := h
  refine isSome_bind (sliceTo_isSome.2 (by omega)) fun head hhead => ?_     -- strURL[:placeholderSegmentStart]
  have hl := (sliceTo_eq_some hhead).2.2
  have hr := lastIndexSlash_range head
  refine isSome_ite (fun c1 => ?_) fun _ => isSome_ite (fun c2 => ?_) fun _ => rfl
  · exact isSome_bind (sliceTo_isSome.2 (by omega)) fun _ _ =>              -- url[:prevComponentPos]
      isSome_bind (sliceTo_isSome.2 (by omega)) fun _ _ => rfl               -- strURL[:prevComponentPos]
  · have hp := hasPrefix_len c2
    refine isSome_ite (fun _ => rfl) fun _ => isSome_ite (fun _ => rfl) fun _ => ?_
    -- url[placeholderSegmentStart]
    refine isSome_bind (idx_isSome.2 (by omega)) fun c _ => isSome_ite (fun _ => rfl) fun _ => ?_
    exact isSome_bind (slice_isSome.2 (by omega)) fun _ _ => rfl            -- url[placeholderSegmentStart+1 : suffixStart]

theorem notStartOfComponent_total (pp : PathPat) (h : WF pp) (url : Bytes) :
    (notStartOfComponent pp url).isSome = true := by
  obtain ⟨h_0, h_lt, h_p, h_pre⟩ := h
  refine isSome_ite (fun _ => rfl) fun c1 => ?_
  generalize hm : (if (url.length : Int) - pp.suf.length < pp.pStart then (url.length : Int) - pp.suf.length else pp.pStart) = maxPos
  obtain ⟨d, hd, hd1, hd2⟩ := firstDiff_some pp url maxPos (by omega) (by omega)
    (maxPos - pp.segStart).toNat pp.segStart h_0
  rw [hd]
  refine isSome_ite (fun _ => ?_) fun _ => isSome_ite (fun _ => ?_) fun _ => rfl
  · have rest : ∀ sep : Bool, (if sep = true then pure true
        else pure (decide (d + pp.suf.length = url.length)) : Option Bool).isSome = true :=
      fun _ => isSome_ite (fun _ => rfl) fun _ => rfl
    refine isSome_ite (fun _ => isSome_bind ?_ fun sep _ => rest sep) fun _ => rest false
    rw [Option.isSome_map]
    exact idx_isSome.2 (by omega)                                           -- strURL[firstDiffPos]
  · exact isSome_bind (slice_isSome.2 (by omega)) fun _ _ => rfl            -- url[firstDiffPos:suffixStart]

theorem isPagingURL_total (pp : PathPat) (h : WF pp) (url : Bytes) : (isPagingURL pp url).isSome = true := by
  unfold isPagingURL
  split
  · rfl
  · rename_i c1
    have hs : pp.suf.length ≤ url.length := by
      cases hsuf : pp.suf with
      | nil => exact Nat.zero_le _
      | cons _ _ => exact hasSuffix_len (by simpa [hsuf] using c1)
    have := h.seg_nonneg; have := h.seg_lt; have := h.p_lt
    refine isSome_bind (idx_isSome.2 (by omega)) fun c _ => ?_              -- strURL[placeholderStart-1]
    split
    · exact startOfComponent_total pp h url hs
    · exact notStartOfComponent_total pp h url

theorem construct_wf (str : Bytes) (origin : Int) (pp : PathPat) (h : construct str origin = some pp) : WF pp := by
  -- `do` puts the rest of the block into both branches of `let suf ← if … then … else …`; `← ite_bind` takes it out again
  simp only [construct, bind, pure, ← ite_bind, Option.bind_eq_some_iff, Option.some.injEq] at h
  obtain ⟨head, hhead, pre, hpre, suf, -, rfl⟩ := h
  obtain ⟨h0, h1, h2⟩ := sliceTo_eq_some hhead
  obtain ⟨g0, g1, g2⟩ := sliceTo_eq_some hpre
  have hr := lastIndexSlash_range head
  have hi := indexPlaceholder_range str
  refine ⟨g0, ?_, ?_, g2⟩
  · show lastIndexSlash head < indexPlaceholder str
    omega
  · show indexPlaceholder str < str.length
    omega

/-- `h1`, `h2`: the placeholder occurs in `strURL`, and a `/` before it; `NewPathComponentPagePattern` has just
spliced the placeholder into the path of an absolute URL. -/
theorem construct_total (str : Bytes) (origin : Int)
    (h1 : 0 ≤ indexPlaceholder str)
    (h2 : ∀ head, sliceTo str (indexPlaceholder str) = some head → 0 ≤ lastIndexSlash head) :
    (construct str origin).isSome = true := by
  have hi := indexPlaceholder_range str
  refine isSome_bind (sliceTo_isSome.2 (by omega)) fun head hhead => ?_     -- strURL[:placeholderStart]
  have hseg := h2 head hhead
  have hl := (sliceTo_eq_some hhead).2.2
  have hr := lastIndexSlash_range head
  refine isSome_bind (sliceTo_isSome.2 (by omega)) fun pre _ => ?_          -- strURL[:placeholderSegmentStart]
  -- strURL[lenURL-lenSuffix:]
  exact isSome_ite (fun _ => isSome_bind (slice_isSome.2 (by omega)) fun _ _ => rfl) fun _ => rfl

end Distill.PP
