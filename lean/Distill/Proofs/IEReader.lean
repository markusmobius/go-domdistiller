/-
  The IE Reading View accessor (Model/IEReader.lean): every element of the tree is among those it scans, and the
  first opt-out tag decides.
-/
import Distill.Model.IEReader
namespace Distill.IE
open Distill

mutual
def Occurs (e : Node) : Node → Prop
  | .text _ _ => False
  | .other _ _ => False
  | .elem i t a ks => e = .elem i t a ks ∨ OccursL e ks
def OccursL (e : Node) : List Node → Prop
  | [] => False
  | k :: ks => Occurs e k ∨ OccursL e ks
end

mutual
theorem mem_descElems_of_occurs (e : Node) : (n : Node) → Occurs e n → e ∈ descElems n
  | .text _ _, h | .other _ _, h => h.elim
  | .elem _ _ _ ks, h => List.mem_cons.mpr (h.imp_right (mem_descElemsL_of_occurs e ks))
theorem mem_descElemsL_of_occurs (e : Node) : (ks : List Node) → OccursL e ks → e ∈ descElemsL ks
  | [], h => h.elim
  | k :: ks, h => List.mem_append.mpr (h.imp (mem_descElems_of_occurs e k) (mem_descElemsL_of_occurs e ks))
end

def isOptOutName (A : Atoms) (m : Node) : Bool := A.upper (getAttr m.attrs "name") == "IE_RM_OFF"
def saysTrue (A : Atoms) (m : Node) : Bool := A.lower (getAttr m.attrs "content") == "true"

theorem optOut_first_decides (A : Atoms) (root m : Node) (before after : List Node)
    (hsplit : withTag root "meta" = before ++ m :: after)
    (hbefore : ∀ x ∈ before, isOptOutName A x = false) (hm : isOptOutName A m = true) :
    optOut A root = saysTrue A m := by
  have h : (withTag root "meta").find? (isOptOutName A) = some m :=
    List.find?_eq_some_iff_append.mpr ⟨hm, before, after, hsplit, fun x hx => by simp [hbefore x hx]⟩
  unfold optOut; exact h ▸ rfl

theorem optOut_none (A : Atoms) (root : Node)
    (h : ∀ x ∈ withTag root "meta", isOptOutName A x = false) : optOut A root = false := by
  have h : (withTag root "meta").find? (isOptOutName A) = none := List.find?_eq_none.mpr fun x hx => by simp [h x hx]
  unfold optOut; exact h ▸ rfl

theorem source_optOut (A : Atoms) (root : Node) : (source A root).optOut = optOut A root := rfl

theorem source_article_some (A : Atoms) (root : Node) : (source A root).article.isSome = true := rfl

end Distill.IE
