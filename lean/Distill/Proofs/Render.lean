import Distill.Model.Render
namespace Distill

/-- C05's "inert": no event handler, no `data-*`, no `id` / `class` / `style` (the embed markers `data-type`,
`data-id` are exempted structurally, in `embed_placeholder_inert`, not here) -/
def safeKey (k : String) : Bool :=
  !strHasPrefix k "on" && !strHasPrefix k "data-" && k != "id" && k != "class" && k != "style"

/-- **The allow list is safe** (kernel evaluation over the generated ~230-entry table and the
generated strip clause): every allow-listed key that is not stripped anyway is neither an event
handler, nor id/class/style, nor a data-* attribute. -/
theorem allowed_safe :
    Gen.allowedAttributes.all (fun k => stripAlwaysKeys.contains k || safeKey k) = true := by
  -- evaluated with the cheap test first: nearly every key is safe, and then the strip clause is not searched
  have h : Gen.allowedAttributes.all (fun k => safeKey k || stripAlwaysKeys.contains k) = true := by decide +kernel
  simpa only [Bool.or_comm] using h

theorem keepAttr_safe (tag : String) (a : Attr) (h : keepAttr tag a = true) : safeKey a.key = true := by
  simp only [keepAttr, Bool.and_eq_true, Bool.not_eq_true'] at h
  have := List.all_eq_true.mp allowed_safe a.key (List.contains_iff_mem.mp h.2)
  rwa [h.1.1, Bool.false_or] at this

mutual
/-- every attribute key of every element of the tree is `safeKey` -/
def Node.allAttrsSafe : Node → Bool
  | .text _ _ => true
  | .other _ _ => true
  | .elem _ _ attrs ks => attrs.all (fun a => safeKey a.key) && allAttrsSafeL ks
def allAttrsSafeL : List Node → Bool
  | [] => true
  | k :: ks => k.allAttrsSafe && allAttrsSafeL ks
end

mutual
theorem stripNode_safe : (n : Node) → (stripNode n).allAttrsSafe = true
  | .text _ _ => rfl
  | .other _ _ => rfl
  | .elem _ t attrs ks => by
    simp only [stripNode, Node.allAttrsSafe, Bool.and_eq_true, List.all_eq_true]
    exact ⟨fun a ha => keepAttr_safe t a (List.mem_filter.mp ha).2, stripNodeL_safe ks⟩
theorem stripNodeL_safe : (ks : List Node) → allAttrsSafeL (stripNodeL ks) = true
  | [] => rfl
  | k :: ks => by simp [stripNodeL, allAttrsSafeL, stripNode_safe k, stripNodeL_safe ks]
end

mutual
theorem stripNode_textIds : (n : Node) → (stripNode n).textIds = n.textIds
  | .text _ _ => rfl
  | .other _ _ => rfl
  | .elem i t attrs ks => by simp [stripNode, Node.textIds, stripNodeL_textIds ks]
theorem stripNodeL_textIds : (ks : List Node) → textIdsL (stripNodeL ks) = textIdsL ks
  | [] => rfl
  | k :: ks => by simp [stripNodeL, textIdsL, stripNode_textIds k, stripNodeL_textIds ks]
end

theorem dedupAttrs_nodup (attrs : List Attr) (seen : List String) :
    ((dedupAttrs attrs seen).map (·.key)).Nodup ∧ ∀ a ∈ dedupAttrs attrs seen, a.key ∉ seen := by
  fun_induction dedupAttrs attrs seen with
  | case1 => simp
  | case2 b rest seen _ ih => exact ih
  | case3 b rest seen hb ih =>
    obtain ⟨hn, hs⟩ := ih
    simp only [List.mem_cons, not_or] at hs
    refine ⟨List.nodup_cons.mpr ⟨fun hm => ?_, hn⟩, fun a ha => ?_⟩
    · obtain ⟨a, ha, hk⟩ := List.mem_map.mp hm
      exact (hs a ha).1 hk
    · rcases List.mem_cons.mp ha with rfl | h
      · simpa using hb
      · exact (hs a h).2

/-- reads of the first copy (`dom.GetAttribute`) are unaffected by the pass -/
theorem dedupAttrs_find (attrs : List Attr) (seen : List String) (k : String) (hk : ¬ k ∈ seen) :
    (dedupAttrs attrs seen).find? (fun a => a.key == k) = attrs.find? (fun a => a.key == k) := by
  fun_induction dedupAttrs attrs seen with
  | case1 => rfl
  | case2 b rest seen hb ih =>
    -- a dropped copy is not the one asked for: its key is in `seen`, `k` is not
    have : (b.key == k) = false := by
      rw [beq_eq_false_iff_ne]
      rintro rfl
      exact hk (List.contains_iff_mem.mp hb)
    rw [ih hk, List.find?_cons, this]
  | case3 b rest seen _ ih =>
    rw [List.find?_cons, List.find?_cons]
    split
    · rfl
    · rename_i hbk
      have : k ≠ b.key := fun h => by simp [h] at hbk
      exact ih (by simp [hk, this])

mutual
def Node.uniqueKeys : Node → Prop
  | .text _ _ => True
  | .other _ _ => True
  | .elem _ _ attrs ks => (attrs.map (·.key)).Nodup ∧ uniqueKeysL ks
def uniqueKeysL : List Node → Prop
  | [] => True
  | k :: ks => k.uniqueKeys ∧ uniqueKeysL ks
end

mutual
theorem dedupNode_unique : (n : Node) → (dedupNode n).uniqueKeys
  | .text _ _ => trivial
  | .other _ _ => trivial
  | .elem _ _ attrs ks => ⟨(dedupAttrs_nodup attrs []).1, dedupNodeL_unique ks⟩
theorem dedupNodeL_unique : (ks : List Node) → uniqueKeysL (dedupNodeL ks)
  | [] => trivial
  | k :: ks => ⟨dedupNode_unique k, dedupNodeL_unique ks⟩
end

/-- "absolute", the resolver being an atom: `v` lies in the image of `f` ("Img"; nothing to do with `<img>`); the
passes leave `""` as it is -/
def IsImg (f : String → String) (v : String) : Prop := v = "" ∨ ∃ w, v = f w

/-- C06 for one element: the attributes `MakeAllLinksAbsolute` rewrites (`href` on `a`, `poster` on `video`,
`src` on the src tags, every `srcset`) hold a value of the resolver or `""` -/
def UrlsAbs (abs absSet : String → String) (tag : String) (attrs : List Attr) : Prop :=
  ∀ a ∈ attrs,
    (tag = "a" → a.key = "href" → IsImg abs a.val) ∧
    (tag = "video" → a.key = "poster" → IsImg abs a.val) ∧
    (srcTags.contains tag = true → a.key = "src" → IsImg abs a.val) ∧
    (a.key = "srcset" → ∃ w, a.val = absSet w)

theorem isImg_resolved (f : String → String) (c : Attr) :
    IsImg f (if c.val != "" then { c with val := f c.val } else c).val := by
  by_cases he : c.val = ""
  · exact Or.inl (by simp [he])
  · exact Or.inr ⟨c.val, by simp [he]⟩

theorem absOne_key (abs absSet : String → String) (tag : String) (c : Attr) : (absOne abs absSet tag c).key = c.key := by
  simp only [absOne, apply_ite Attr.key, ite_self]

theorem absOne_url {abs absSet : String → String} {tag : String} {c : Attr}
    (h : c.key = "href" ∧ tag = "a" ∨ c.key = "poster" ∧ tag = "video" ∨ c.key = "src" ∧ srcTags.contains tag = true) :
    absOne abs absSet tag c = if c.val != "" then { c with val := abs c.val } else c := by
  rcases h with ⟨hk, rfl⟩ | ⟨hk, rfl⟩ | ⟨hk, ht⟩
  · simp [absOne, hk]
  · simp [absOne, hk]
  · simp [absOne, hk, List.contains_iff_mem.mp ht]

theorem absOne_srcset {abs absSet : String → String} {tag : String} {c : Attr} (h : c.key = "srcset") :
    absOne abs absSet tag c = { c with val := absSet c.val } := by
  simp [absOne, h]

theorem absAttrs_abs (abs absSet : String → String) (tag : String) (attrs : List Attr) :
    UrlsAbs abs absSet tag (absAttrs abs absSet tag attrs) := by
  intro a ha
  obtain ⟨c, _, rfl⟩ := List.mem_map.mp ha
  rw [absOne_key]
  exact ⟨fun ht hk => absOne_url (.inl ⟨hk, ht⟩) ▸ isImg_resolved abs c,
    fun ht hk => absOne_url (.inr (.inl ⟨hk, ht⟩)) ▸ isImg_resolved abs c,
    fun ht hk => absOne_url (.inr (.inr ⟨hk, ht⟩)) ▸ isImg_resolved abs c,
    fun hk => ⟨c.val, by rw [absOne_srcset hk]⟩⟩

mutual
def Node.allUrlsAbs (abs absSet : String → String) : Node → Prop
  | .text _ _ => True
  | .other _ _ => True
  | .elem _ t attrs ks => UrlsAbs abs absSet t attrs ∧ allUrlsAbsL abs absSet ks
def allUrlsAbsL (abs absSet : String → String) : List Node → Prop
  | [] => True
  | k :: ks => k.allUrlsAbs abs absSet ∧ allUrlsAbsL abs absSet ks
end

mutual
theorem absNode_abs (abs absSet : String → String) : (n : Node) → (absNode abs absSet n).allUrlsAbs abs absSet
  | .text _ _ => trivial
  | .other _ _ => trivial
  | .elem _ t attrs ks => ⟨absAttrs_abs abs absSet t attrs, absNodeL_abs abs absSet ks⟩
theorem absNodeL_abs (abs absSet : String → String) : (ks : List Node) → allUrlsAbsL abs absSet (absNodeL abs absSet ks)
  | [] => trivial
  | k :: ks => ⟨absNode_abs abs absSet k, absNodeL_abs abs absSet ks⟩
end

mutual
theorem stripNode_abs (abs absSet : String → String) : (n : Node) → n.allUrlsAbs abs absSet →
    (stripNode n).allUrlsAbs abs absSet
  | .text _ _, _ => trivial
  | .other _ _, _ => trivial
  | .elem _ _ _ ks, h => ⟨fun a ha => h.1 a (List.mem_filter.mp ha).1, stripNodeL_abs abs absSet ks h.2⟩
theorem stripNodeL_abs (abs absSet : String → String) : (ks : List Node) → allUrlsAbsL abs absSet ks →
    allUrlsAbsL abs absSet (stripNodeL ks)
  | [], _ => trivial
  | k :: ks, h => ⟨stripNode_abs abs absSet k h.1, stripNodeL_abs abs absSet ks h.2⟩
end

mutual
theorem absNode_textIds' (abs absSet : String → String) : (m : Node) → (absNode abs absSet m).textIds = m.textIds
  | .text _ _ => rfl
  | .other _ _ => rfl
  | .elem i t attrs ks => by
    simp only [absNode, Node.textIds]
    exact absNodeL_textIds' abs absSet ks
theorem absNodeL_textIds' (abs absSet : String → String) : (ks : List Node) → textIdsL (absNodeL abs absSet ks) = textIdsL ks
  | [] => rfl
  | k :: ks => by
    simp only [absNodeL, textIdsL, absNode_textIds' abs absSet k, absNodeL_textIds' abs absSet ks]
end

theorem processClone_abs (abs absSet : String → String) (n : Node) :
    (processClone abs absSet n).allUrlsAbs abs absSet :=
  stripNode_abs abs absSet _ (absNode_abs abs absSet n)

theorem processClone_textIds (abs absSet : String → String) (n : Node) :
    (processClone abs absSet n).textIds = n.textIds := by
  unfold processClone
  rw [stripNode_textIds, absNode_textIds']

end Distill
