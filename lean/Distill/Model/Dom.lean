/-
  Dom: the tree the distiller works on.

  `id` is the pre-order index of the node in the *caller's* tree.  Clones keep the id of
  the node they were cloned from (provenance); nodes synthesised by the pipeline get ids
  `≥ synthBase`.  All recursion over `Node` is `mutual` structural recursion together with
  a companion function over `List Node`.
-/
namespace Distill

structure Attr where
  key : String
  val : String
deriving DecidableEq, Repr, Inhabited

inductive Node where
  | text  (id : Nat) (data : String)
  | elem  (id : Nat) (tag : String) (attrs : List Attr) (kids : List Node)
  | other (id : Nat) (kind : Nat)          -- comment / doctype / document / raw
deriving Repr, Inhabited

def synthBase : Nat := 4294967296

namespace Node

def id : Node → Nat
  | .text i _ => i
  | .elem i _ _ _ => i
  | .other i _ => i

def isElem : Node → Bool
  | .elem .. => true
  | _ => false

def isText : Node → Bool
  | .text .. => true
  | _ => false

def tag : Node → String
  | .elem _ t _ _ => t
  | _ => ""

def attrs : Node → List Attr
  | .elem _ _ a _ => a
  | _ => []

def kids : Node → List Node
  | .elem _ _ _ k => k
  | _ => []

end Node

/-- first attribute value with that key (Go: `dom.GetAttribute`, which returns "" when absent) -/
def getAttr (as : List Attr) (k : String) : String :=
  match as.find? (fun a => a.key == k) with
  | some a => a.val
  | none => ""

def hasAttr (as : List Attr) (k : String) : Bool :=
  as.any (fun a => a.key == k)

theorem hasAttr_eq_false {as : List Attr} {k : String} : hasAttr as k = false ↔ ∀ a ∈ as, a.key ≠ k := by
  simp [hasAttr]

theorem getAttr_of_not_hasAttr {as : List Attr} {k : String} (h : hasAttr as k = false) : getAttr as k = "" := by
  rw [getAttr, List.find?_eq_none.2 (by simpa [hasAttr] using h)]

mutual
/-- ids of all text nodes, in document (pre-)order -/
def Node.textIds : Node → List Nat
  | .text i _ => [i]
  | .elem _ _ _ ks => textIdsL ks
  | .other _ _ => []
def textIdsL : List Node → List Nat
  | [] => []
  | k :: ks => k.textIds ++ textIdsL ks
end

mutual
/-- ids of all nodes, in pre-order -/
def Node.allIds : Node → List Nat
  | .text i _ => [i]
  | .elem i _ _ ks => i :: allIdsL ks
  | .other i _ => [i]
def allIdsL : List Node → List Nat
  | [] => []
  | k :: ks => k.allIds ++ allIdsL ks
end

mutual
/-- all element nodes of the subtree (root included when it is an element), pre-order -/
def Node.elems : Node → List Node
  | .text _ _ => []
  | .elem i t a ks => .elem i t a ks :: elemsL ks
  | .other _ _ => []
def elemsL : List Node → List Node
  | [] => []
  | k :: ks => k.elems ++ elemsL ks
end

mutual
def Node.size : Node → Nat
  | .text _ _ => 1
  | .elem _ _ _ ks => 1 + sizeL ks
  | .other _ _ => 1
def sizeL : List Node → Nat
  | [] => 0
  | k :: ks => k.size + sizeL ks
end

theorem textIdsL_append (a b : List Node) : textIdsL (a ++ b) = textIdsL a ++ textIdsL b := by
  induction a with
  | nil => simp [textIdsL]
  | cons k ks ih => simp [textIdsL, ih, List.append_assoc]

end Distill
