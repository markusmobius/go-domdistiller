/-
  Convert: `converter.DomConverter` — the walk over the (cloned) tree and, per element, the
  ordered sequence of tests of `visitElementNodeHandler`, emitting builder events.

  Atoms (regexps, embed extractors, table classifier, word counter) are fields of `CAtoms`,
  looked up by node id; every theorem is for all of them.
-/
import Distill.Model.Builder
import Distill.Model.Features
import Distill.Gen.Tables
import Distill.Gen.Funcs
namespace Distill

/-- the kinds of element an embed extractor can produce -/
inductive EmbedKind where
  | image | figure | embed
deriving DecidableEq, Repr, Inhabited

def EmbedKind.toKind : EmbedKind → MKind
  | .image => .image | .figure => .figure | .embed => .embed

/-- answer of the embed extractors for an element (first extractor that accepts) -/
inductive EmbedRes where
  | none
  | some (kind : EmbedKind)
deriving DecidableEq, Repr, Inhabited

structure CAtoms where
  styleDisplay : Nat → String      -- capture of rxDisplay on the style attribute ("" = no match)
  visHidden : Nat → Bool           -- rxVisibilityHidden on the style attribute
  byline : Nat → Bool              -- isByline(node, class+" "+id)
  rxUnlikely : Nat → Bool          -- rxUnlikelyCandidates on class+" "+id
  rxMaybe : Nat → Bool             -- rxOkMaybeItsACandidate on class+" "+id
  embed : Nat → EmbedRes           -- the four embed extractors, in order
  dataTable : Nat → Bool           -- table classifier says Data
  blank : Nat → Bool               -- IsStringAllWhitespace(text data)
  words : Nat → Nat                -- word counter on text data
  /-- `domutil.IsForeignRawTextElement`: an SVG / MathML element named like one of HTML's raw text
  elements (the namespace of a node is not part of the model's trees) -/
  foreignRaw : Nat → Bool := fun _ => false

structure CCfg where
  skipUnlikely : Bool

def strContains (s sub : String) : Bool :=
  let rec go (l : List Char) (p : List Char) (fuel : Nat) : Bool :=
    match fuel with
    | 0 => p.isPrefixOf l
    | fuel+1 => p.isPrefixOf l || (match l with | [] => false | _ :: t => go t p fuel)
  go s.toList sub.toList s.length

/-- on literals: to the kernel `"ab"` is `String.ofList ['a', 'b']`, and rewriting with this keeps it from
decoding the strings (`String.toList` of a long literal is dear there) -/
theorem strContains_ofList (l p : List Char) :
    strContains (String.ofList l) (String.ofList p) = strContains.go l p l.length := by
  rw [strContains, String.toList_ofList, String.toList_ofList, String.length_ofList]

/-- default display of a tag, from the generated `GetDisplayStyle` switch -/
def defaultDisplay (tag : String) : String :=
  match Gen.displayTable.find? (fun c => c.1.contains tag) with
  | some c => c.2
  | none => "block"

def displayOf (A : CAtoms) (id : Nat) (tag : String) : String :=
  let d := A.styleDisplay id
  if d != "" then d else defaultDisplay tag

def visAtoms (A : CAtoms) (id : Nat) (tag : String) (attrs : List Attr) : VisAtoms :=
  { display := displayOf A id tag, hasHidden := hasAttr attrs "hidden", visHidden := A.visHidden id,
    ariaHidden := getAttr attrs "aria-hidden", fallbackImage := strContains (getAttr attrs "class") "fallback-image" }

/-- `domutil.IsProbablyVisible` through the generated expression -/
def visible (A : CAtoms) (id : Nat) (tag : String) (attrs : List Attr) : Bool :=
  match Gen.isProbablyVisible (visAtoms A id tag attrs) with
  | some b => b
  | none => true

def nestableTag (tag : String) : Bool :=
  Gen.nestableCases.any (fun c => c.1.contains tag && c.2 == "return true")

def skipFlushTag (tag : String) : Bool :=
  Gen.converterCases.any (fun c => c.1.contains tag && c.2 == "dc.builder.SkipNode(node); return false")

def skipSilentTag (tag : String) : Bool :=
  Gen.converterCases.any (fun c => c.1.contains tag && c.2 == "return false")

def emptyContainerTag (tag : String) : Bool :=
  Gen.emptyContainerCases.any (fun c => c.1.contains tag)

def embedTag (tag : String) : Bool :=
  Gen.relevantImageTags.contains tag || Gen.relevantTwitterTags.contains tag ||
  Gen.relevantVimeoTags.contains tag || Gen.relevantYouTubeTags.contains tag

mutual
/-- all text of the subtree is whitespace (`strings.TrimSpace(dom.TextContent(node)) == ""`) -/
def Node.allBlank (blank : Nat → Bool) : Node → Bool
  | .text i _ => blank i
  | .elem _ _ _ ks => allBlankL blank ks
  | .other _ _ => true
def allBlankL (blank : Nat → Bool) : List Node → Bool
  | [] => true
  | k :: ks => k.allBlank blank && allBlankL blank ks
end

mutual
/-- number of descendant elements with the given tag (`dom.GetElementsByTagName`) -/
def Node.countTag (tag : String) : Node → Nat
  | .elem _ _ _ ks => countTagL tag ks
  | _ => 0
def countTagL (tag : String) : List Node → Nat
  | [] => 0
  | k :: ks => (match k with
      | .elem _ t _ kk => (if t == tag then 1 else 0) + countTagL tag kk
      | _ => 0) + countTagL tag ks
end

def elemChildren (ks : List Node) : Nat := (ks.filter Node.isElem).length

/-- `isElementWithoutContent` -/
def withoutContent (A : CAtoms) (n : Node) : Bool :=
  n.allBlank A.blank &&
  (elemChildren n.kids == 0 || elemChildren n.kids == n.countTag "br" + n.countTag "hr")

/-- `webdoc.GetActionForElement` (display switch and tag switch regenerated: Gen.action*) -/
def actionFor (A : CAtoms) (anc : List String) (id : Nat) (tag : String) (attrs : List Attr) : Action :=
  let d := displayOf A id tag
  let a0 : Action :=
    if d == "none" || d == "inline" then {}
    else if d == "inline-block" || d == "inline-flex" then { changesTagLevel := true }
    else { flush := true, changesTagLevel := true }
  let a1 : Action := if anc.any (fun t => t == "li" || t == "summary") then { a0 with flush := false, changesTagLevel := false } else a0
  if tag != "html" && tag != "body" && tag != "article" && tag == "a" then
    { a1 with changesTagLevel := true, isAnchor := hasAttr attrs "href" }
  else a1

inductive Visit where
  | skip                                  -- return false, nothing emitted
  | emit (evs : List BEv)                 -- return false after these calls
  | descend (pre post : List BEv) (tag : String)   -- return true; tag = name the children see as ancestor
deriving Repr

def textEv (A : CAtoms) (i : Nat) (d : String) : BEv := .addText i (d == "") (A.blank i) (A.words i)

/-- tests 1–6 of `visitElementNodeHandler`: not visible, foreign element named like a raw text
element, social/sharing block, byline,
unlikely candidate (only in skip-unlikelies mode), empty container -/
def gateSkip (cfg : CCfg) (A : CAtoms) (anc : List String)
    (id : Nat) (tag : String) (attrs : List Attr) (kids : List Node) : Bool :=
  !visible A id tag attrs
  || A.foreignRaw id
  || (getAttr attrs "class" == "sharing" || getAttr attrs "class" == "socialArea" || getAttr attrs "data-component" == "share")
  || A.byline id
  || (cfg.skipUnlikely && ((A.rxUnlikely id && !A.rxMaybe id && !anc.contains "table" && tag != "body" && tag != "a")
                           || Gen.unlikelyRoles.contains (getAttr attrs "role")))
  || (emptyContainerTag tag && withoutContent A (.elem id tag attrs kids))

/-- the text child of a `javascript:` anchor that the converter turns into plain text -/
def jsAnchorText (hasParent : Bool) (tag : String) (attrs : List Attr) (kids : List Node) : Option (Nat × String) :=
  if tag == "a" && strHasPrefix (getAttr attrs "href") "javascript:" && hasParent then
    match kids with
    | [.text ti td] => some (ti, td)
    | _ => none
  else none

/-- the `switch tagName` of `visitElementNodeHandler` and the final `StartNode`; tag
placeholders are added by `withTags` -/
def tagSwitch (A : CAtoms) (anc : List String) (hasParent : Bool)
    (id : Nat) (tag : String) (attrs : List Attr) (kids : List Node) : Visit :=
  if tag == "a" && strContains (getAttr attrs "href") "action=edit&section=" then .emit []
  else
    match jsAnchorText hasParent tag attrs kids with
    | some (ti, td) => .emit [textEv A ti td]
    | none =>
      if tag == "span" && getAttr attrs "class" == "mw-editsection" then .emit []
      else if tag == "font" then .descend [.startNode (actionFor A anc id "span" [])] [.endNode] "span"
      else if tag == "br" then .emit [.addBr id]
      else if tag == "table" && A.dataTable id then .emit [.addTable id]
      else if tag == "video" then .emit [.addEmbed .video id]
      else if skipFlushTag tag then .emit [.skipNode]
      else if skipSilentTag tag then .emit []
      else .descend [.startNode (actionFor A anc id tag attrs)] [.endNode] tag

/-- the start placeholder goes out before the tag switch; the end placeholder only when the
element is walked (exit handler) -/
def withTags (tag : String) : Visit → Visit
  | .skip => .skip
  | .emit evs => .emit ((if nestableTag tag then [BEv.addTag tag true] else []) ++ evs)
  | .descend pre post t =>
    .descend ((if nestableTag tag then [BEv.addTag tag true] else []) ++ pre)
             ((if nestableTag tag then [BEv.addTag tag false] else []) ++ post) t

/-- `visitElementNodeHandler` for an element that has a parent iff `hasParent` -/
def visitElem (cfg : CCfg) (A : CAtoms) (anc : List String) (hasParent : Bool)
    (id : Nat) (tag : String) (attrs : List Attr) (kids : List Node) : Visit :=
  if gateSkip cfg A anc id tag attrs kids then .skip
  else
    match (if embedTag tag then A.embed id else .none) with
    | .some k => .emit [.addEmbed k.toKind id]
    | .none => withTags tag (tagSwitch A anc hasParent id tag attrs kids)

/-- the element visitor's signature: ancestors' tags, has-parent, id, tag, attributes, children -/
abbrev Visitor := List String → Bool → Nat → String → List Attr → List Node → Visit

mutual
/-- `domutil.WalkNodes(root, visit, exit)`: pre-order walk; the visitor decides per element
whether the walk goes into the children (and which calls frame them) -/
def walkNode (visit : Visitor) (txt : Nat → String → BEv) (anc : List String) (hasParent : Bool) : Node → List BEv
  | .text i d => [txt i d]
  | .other _ _ => []
  | .elem i t attrs ks =>
    match visit anc hasParent i t attrs ks with
    | .skip => []
    | .emit evs => evs
    | .descend pre post t' => pre ++ walkKids visit txt (t' :: anc) ks ++ post
def walkKids (visit : Visitor) (txt : Nat → String → BEv) (anc : List String) : List Node → List BEv
  | [] => []
  | k :: ks => walkNode visit txt anc true k ++ walkKids visit txt anc ks
end

/-- the walk with the converter's handlers -/
def convertNode (cfg : CCfg) (A : CAtoms) (anc : List String) (hasParent : Bool) (n : Node) : List BEv :=
  walkNode (visitElem cfg A) (textEv A) anc hasParent n
def convertKids (cfg : CCfg) (A : CAtoms) (anc : List String) (ks : List Node) : List BEv :=
  walkKids (visitElem cfg A) (textEv A) anc ks

theorem convertNode_text (cfg : CCfg) (A : CAtoms) (anc : List String) (hp : Bool) (i : Nat) (d : String) :
    convertNode cfg A anc hp (.text i d) = [textEv A i d] := by
  unfold convertNode; rw [walkNode]
theorem convertNode_other (cfg : CCfg) (A : CAtoms) (anc : List String) (hp : Bool) (i k : Nat) :
    convertNode cfg A anc hp (.other i k) = [] := by
  unfold convertNode; rw [walkNode]
theorem convertNode_elem (cfg : CCfg) (A : CAtoms) (anc : List String) (hp : Bool)
    (i : Nat) (t : String) (attrs : List Attr) (ks : List Node) :
    convertNode cfg A anc hp (.elem i t attrs ks) =
      match visitElem cfg A anc hp i t attrs ks with
      | .skip => []
      | .emit evs => evs
      | .descend pre post t' => pre ++ convertKids cfg A (t' :: anc) ks ++ post := by
  unfold convertNode convertKids; rw [walkNode]
theorem convertKids_nil (cfg : CCfg) (A : CAtoms) (anc : List String) : convertKids cfg A anc [] = [] := by
  unfold convertKids; rw [walkKids]
theorem convertKids_cons (cfg : CCfg) (A : CAtoms) (anc : List String) (k : Node) (ks : List Node) :
    convertKids cfg A anc (k :: ks) = convertNode cfg A anc true k ++ convertKids cfg A anc ks := by
  unfold convertKids convertNode; rw [walkKids]

/-- `DomConverter.Convert(root)` on a root whose ancestors have tags `anc` -/
def convert (cfg : CCfg) (A : CAtoms) (anc : List String) (hasParent : Bool) (root : Node) : List BEv :=
  convertNode cfg A anc hasParent root

end Distill
