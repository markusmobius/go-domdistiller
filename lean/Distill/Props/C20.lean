/-
  C20 — Unlikely-content pruning applies only if enough content remains, else fallback.
-/
import Distill.Props.DomHelpers
import Distill.Model.Candidates
import Distill.Model.Derive
import Distill.Proofs.Style
import Distill.Proofs.Prune
import Distill.Model.Extract
import Distill.Proofs.Basics
namespace Distill.C20
open Distill Distill.Prune

/-- the threshold and the shape of `ExtractContent`: skip-unlikelies pass first; a second,
default pass exactly when the first pass's word count is below the threshold; then the three
document filters -/
theorem extract_content_tie :
    Gen.documentCharThreshold = some 500 ∧
    Gen.extractContentBody =
      ["start := time.Now()",
       "webDocument := ce.createWebDocumentInfoFromPage(converter.SkipUnlikelies)",
       "wordCount := ce.processDocument(webDocument)",
       "if wordCount < documentCharThreshold { webDocument = ce.createWebDocumentInfoFromPage(converter.Default) wordCount = ce.processDocument(webDocument) }",
       "ce.TimingInfo.DocumentConstructionTime = time.Now().Sub(start)",
       "start = time.Now()",
       "docfilter.NewRelevantElements().Process(webDocument)",
       "docfilter.NewLeadImageFinder(ce.logger).Process(webDocument)",
       "docfilter.NewNestedElementRetainer().Process(webDocument)",
       "ce.TimingInfo.ArticleProcessingTime = time.Now().Sub(start)",
       "ce.ImageURLs = webDocument.GetImageURLs()",
       "return webDocument, wordCount"] := ⟨rfl, rfl⟩

/-- each pass converts a fresh clone of the same document element -/
theorem convert_clone_tie :
    Gen.converterConvertBody = ["clone := domutil.Clone(root, true)", "domutil.RemoveDuplicateAttributes(clone)",
      "domutil.WalkNodes(clone, dc.visitNodeHandler, dc.exitNodeHandler)"] ∧
    Gen.createWebDocumentBody = ["docBuilder := webdoc.NewWebDocumentBuilder(ce.WordCounter, ce.pageURL)",
      "converter.NewDomConverter(flags, docBuilder, ce.pageURL, ce.logger).Convert(ce.documentElement)",
      "webDocument := docBuilder.Build()", "ce.ensureTitleInitialized()", "return webDocument"] := ⟨rfl, rfl⟩

/-- **Enough content remains**: the pass that is used equals the default conversion of the
page with the marked subtrees deleted — for all atoms, under the stability hypothesis the
proof forces (pruning must not flip the "empty container" test of a surviving wrapper, nor
turn a `javascript:` anchor into a single-text anchor). -/
theorem two_pass_enough (threshold : Nat) (wc : List BEv → Nat) (A : CAtoms) (root : Node)
    (hs : Stable A [] false root) (hr : rootRemoved A [] root = false)
    (h : threshold ≤ wc (convert { skipUnlikely := true } A [] false root)) :
    extractEvents threshold wc A root =
      convert { skipUnlikely := false } A [] false (prune A [] false root) := by
  have hlt : ¬ wc (convert { skipUnlikely := true } A [] false root) < threshold := by omega
  simp only [extractEvents, hlt, if_false]
  exact skip_eq_prune_node A [] false root hs hr

/-- **Otherwise the markers are ignored altogether**: the pass that is used is the default
conversion of the page … -/
theorem two_pass_fallback (threshold : Nat) (wc : List BEv → Nat) (A : CAtoms) (root : Node)
    (h : wc (convert { skipUnlikely := true } A [] false root) < threshold) :
    extractEvents threshold wc A root = convert { skipUnlikely := false } A [] false root := by
  simp [extractEvents, h]

/-- … and the default conversion does not look at the markers: the two marker regexps can
answer anything (i.e. class/id values can be renamed to neutral ones) without changing it.
(`role` is read by the unlikely test only, which the default mode never evaluates:
`gateSkip_cfg`.) -/
theorem default_ignores_markers (A : CAtoms) (u m : Nat → Bool) (anc : List String) (hp : Bool) :
    ∀ n : Node, convertNode { skipUnlikely := false } { A with rxUnlikely := u, rxMaybe := m } anc hp n =
      convertNode { skipUnlikely := false } A anc hp n := by
  have key : visitElem { skipUnlikely := false } { A with rxUnlikely := u, rxMaybe := m } =
      visitElem { skipUnlikely := false } A := by
    funext anc hp i t a ks
    unfold visitElem gateSkip
    simp only [Bool.false_and, Bool.or_false]
    rfl
  intro n
  unfold convertNode
  rw [key]
  rfl

/-- the excluded point is real: a marked subtree that is the only content of a wrapper div
makes the two sides differ (the wrapper is walked in the first pass, but is an "empty
container" once the subtree is deleted) -/
theorem stable_needed :
    convertNode { skipUnlikely := true } exA [] false exBad ≠
      convertNode { skipUnlikely := false } exA [] false (prune exA [] false exBad) := by
  decide +kernel


/-! `rxUnlikely`, `rxMaybe` and `rxByline` above are atoms.  `Model/Candidates.lean` opens them: each
expression is `(?i)` and an alternation of literal words, read from the regenerated pattern. -/

/-- the three patterns as they stand in the source -/
theorem candidate_regexps_tie :
    Gen.modelledRegexps.lookup "internal/converter.rxUnlikelyCandidates" = some "(?i)-ad-|ai2html|banner|breadcrumbs|combx|comment|community|cover-wrap|disqus|extra|footer|gdpr|header|legends|menu|related|remark|replies|rss|shoutbox|sidebar|skyscraper|social|sponsor|supplemental|ad-break|agegate|pagination|pager|popup|yom-remote" ∧
    Gen.modelledRegexps.lookup "internal/converter.rxOkMaybeItsACandidate" = some "(?i)and|article|body|column|content|main|shadow" ∧
    Gen.modelledRegexps.lookup "internal/converter.rxByline" = some "(?i)byline|author|dateline|writtenby|p-author" := by
  simp only [Gen.modelledRegexps, lookup_cons_ne, List.lookup_cons_self, ne_eq, String.reduceEq, not_false_eq_true,
    and_self]

/-! Kernel evaluation on `String` is dear (`toList` of a long literal, a lookup in a table keyed by strings),
on `List Char` it is cheap.  So each word list is evaluated once, below, the pattern coming from
`candidate_regexps_tie` by rewriting and its characters from the library's `String.toList_ofList` (a literal is
`String.ofList` of its characters by definition); everything after rewrites with these equations. -/

theorem patternOf_of_lookup {name pat : String} (h : Gen.modelledRegexps.lookup name = some pat) :
    Cand.patternOf name = pat := by
  unfold Cand.patternOf; rw [h]; rfl

theorem altWords_of_toList {pat : String} {rest : List Char} (h : pat.toList = '(' :: '?' :: 'i' :: ')' :: rest) :
    Cand.altWords pat =
      if (Cand.splitBar rest []).all (fun w => !w.isEmpty && w.all (fun c => Cand.isLiteral c && c.toLower == c))
      then some (Cand.splitBar rest []) else none := by
  unfold Cand.altWords; rw [h]; rfl

theorem unlikelyWords_eq : Cand.unlikelyWords =
    some ["-ad-".toList, "ai2html".toList, "banner".toList, "breadcrumbs".toList, "combx".toList, "comment".toList, "community".toList, "cover-wrap".toList, "disqus".toList, "extra".toList, "footer".toList, "gdpr".toList, "header".toList, "legends".toList, "menu".toList, "related".toList, "remark".toList, "replies".toList, "rss".toList, "shoutbox".toList, "sidebar".toList, "skyscraper".toList, "social".toList, "sponsor".toList, "supplemental".toList, "ad-break".toList, "agegate".toList, "pagination".toList, "pager".toList, "popup".toList, "yom-remote".toList] := by
  rw [Cand.unlikelyWords, patternOf_of_lookup candidate_regexps_tie.1, altWords_of_toList String.toList_ofList]
  decide +kernel

/-- every pattern is an alternation of literal lower-case words (so "matches" is "a word occurs"),
and these are the words -/
theorem candidate_words_read :
    Cand.unlikelyWords.map (·.length) = some 31 ∧
    Cand.maybeWords = some ["and".toList, "article".toList, "body".toList, "column".toList, "content".toList, "main".toList, "shadow".toList] ∧
    Cand.bylineWords = some ["byline".toList, "author".toList, "dateline".toList, "writtenby".toList, "p-author".toList] := by
  refine ⟨by rw [unlikelyWords_eq]; rfl, ?_, ?_⟩
  · rw [Cand.maybeWords, patternOf_of_lookup candidate_regexps_tie.2.1, altWords_of_toList String.toList_ofList]
    decide +kernel
  · rw [Cand.bylineWords, patternOf_of_lookup candidate_regexps_tie.2.2, altWords_of_toList String.toList_ofList]
    decide +kernel

/-! The three definitions below match on a closed constant (`Cand.unlikelyWords` …).  Unfolding them
where they are applied (`unfold`, `delta`, `simp only [f]`) makes the kernel compare the matcher
with the folded call; it unfolds the matcher first and evaluates the constant, anew each
time.  Unfolded as a function, constant against `fun`, nothing is evaluated. -/

theorem derivedUnlikely_of {ws : List (List Char)} (h : Cand.unlikelyWords = some ws) (attrs : List Attr) :
    derivedUnlikely attrs = Cand.matchAlt ws (Cand.matchString (getAttr attrs "class") (getAttr attrs "id")) := by
  refine (congrFun (?e : derivedUnlikely = ?f) attrs).trans ?_
  case e => delta derivedUnlikely; with_reducible rfl
  rw [h]

theorem derivedMaybe_of {ws : List (List Char)} (h : Cand.maybeWords = some ws) (attrs : List Attr) :
    derivedMaybe attrs = Cand.matchAlt ws (Cand.matchString (getAttr attrs "class") (getAttr attrs "id")) := by
  refine (congrFun (?e : derivedMaybe = ?f) attrs).trans ?_
  case e => delta derivedMaybe; with_reducible rfl
  rw [h]

theorem answers_of_words {u m b : List (List Char)} (hu : Cand.unlikelyWords = some u)
    (hm : Cand.maybeWords = some m) (hb : Cand.bylineWords = some b) (cls id rel itemprop text : String) :
    Cand.answers cls id rel itemprop text =
      some { unlikely := Cand.matchAlt u (Cand.matchString cls id), maybe := Cand.matchAlt m (Cand.matchString cls id),
             byline := (rel == "author" || Cand.containsExact "author".toList itemprop.toList ||
               Cand.matchAlt b (Cand.matchString cls id)) && Cand.validByline text } := by
  refine (congrFun (congrFun (congrFun (congrFun (congrFun (?e : Cand.answers = ?f) cls) id) rel) itemprop) text).trans ?_
  case e => delta Cand.answers; with_reducible rfl
  rw [hu, hm, hb]

/-- `isByline`, `isValidByline`, `isElementWithoutContent` as they stand -/
theorem candidate_bodies_tie : Gen.candidateBodies = Gen.candidateBodiesExpected := by rfl

theorem occurs_of_lit {w l : List Char} (h : (Style.lit w l).isSome = true) : Cand.occurs w l = true := by
  cases l <;> simp [Cand.occurs, h]

theorem occurs_spelled (w s : List Char) (h : Style.FoldsTo s w) (a b : List Char) :
    Cand.occurs w (a ++ s ++ b) = true := by
  induction a with
  | nil => exact occurs_of_lit (by rw [List.nil_append, Style.lit_append h b]; rfl)
  | cons c cs ih =>
    simp only [List.cons_append, Cand.occurs, Bool.or_eq_true]
    exact .inr (by simpa using ih)

/-- **A listed word marks the element in every spelling and position**: if the class / id string
contains a word of the list, in any case (and with the letters Unicode folds onto `s` and `k`),
with anything before and after it, the expression matches -/
theorem listed_word_matches (ws : List (List Char)) (w s a b : List Char) (hw : w ∈ ws)
    (h : Style.FoldsTo s w) : Cand.matchAlt ws (a ++ s ++ b) = true := by
  unfold Cand.matchAlt
  exact List.any_eq_true.mpr ⟨w, hw, occurs_spelled w s h a b⟩

/-- … and a string in which no word of the list occurs does not -/
theorem no_word_no_match (ws : List (List Char)) (s : List Char) (h : ∀ w ∈ ws, Cand.occurs w s = false) :
    Cand.matchAlt ws s = false := by
  unfold Cand.matchAlt
  exact List.any_eq_false.2 fun w hw => by simp [h w hw]

/-- **From the written class / id to pruning**: in skip-unlikelies mode an element (not `body`, not
`a`, not inside a table) whose class + " " + id contains a word of the unlikely list — in any case,
anywhere — and no word of the "maybe" list contributes no builder call at all, with the two answers
computed by the model from the attributes (`deriveAtoms`). -/
theorem marked_element_pruned (A : CAtoms) (anc : List String) (hp : Bool)
    (i : Nat) (t : String) (attrs : List Attr) (ks : List Node)
    (hU : A.rxUnlikely i = derivedUnlikely attrs) (hM : A.rxMaybe i = derivedMaybe attrs)
    (uw mw : List (List Char)) (huw : Cand.unlikelyWords = some uw) (hmw : Cand.maybeWords = some mw)
    (w sp a b : List Char) (hw : w ∈ uw) (hs : Style.FoldsTo sp w)
    (hdata : Cand.matchString (getAttr attrs "class") (getAttr attrs "id") = a ++ sp ++ b)
    (hno : ∀ m ∈ mw, Cand.occurs m (a ++ sp ++ b) = false)
    (hctx : anc.contains "table" = false ∧ t ≠ "body" ∧ t ≠ "a") :
    convertNode { skipUnlikely := true } A anc hp (.elem i t attrs ks) = [] := by
  have h1 : derivedUnlikely attrs = true := by
    rw [derivedUnlikely_of huw, hdata]
    exact listed_word_matches uw w sp a b hw hs
  have h2 : derivedMaybe attrs = false := by
    rw [derivedMaybe_of hmw, hdata]
    exact no_word_no_match mw _ hno
  obtain ⟨hc1, hc2, hc3⟩ := hctx
  have hc1' : ¬ "table" ∈ anc := by simpa using hc1
  simp [convertNode_elem, visitElem, gateSkip, hU, hM, h1, h2, hc1', hc2, hc3]

example : Cand.answers "Main SIDEBAR" "x" "" "" "By Jane" = some ⟨true, true, false⟩ := by
  rw [answers_of_words unlikelyWords_eq candidate_words_read.2.1 candidate_words_read.2.2]; decide +kernel
example : Cand.answers "story" "p-Author" "" "" "By Jane" = some ⟨false, false, true⟩ := by
  rw [answers_of_words unlikelyWords_eq candidate_words_read.2.1 candidate_words_read.2.2]; decide +kernel
example : Cand.answers "story" "" "" "" "" = some ⟨false, false, false⟩ := by
  rw [answers_of_words unlikelyWords_eq candidate_words_read.2.1 candidate_words_read.2.2]; decide +kernel

end Distill.C20
