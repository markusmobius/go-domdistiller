/- C17: `famOk` (Props/C17Defs.lean) on URL family 3, evaluated by the kernel on the implementation's own
page-pattern answers; one file per family so the families are checked in parallel. -/
import Distill.Props.C17Defs
namespace Distill.C17

theorem fam3_ok : famOk Gen.fam3 = true := by decide +kernel

end Distill.C17
