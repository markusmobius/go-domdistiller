/-
  C10 — Caller-owned arguments are never modified.
-/
import Distill.Props.DomHelpers   -- its two ties are among this property's obligations (lean/obligations.json)
import Distill.Model.Heap
import Distill.Gen.Inventory
import Distill.Gen.Funcs
namespace Distill.C10
open Distill

theorem hstep_frame {Cell : Type} (base : Nat) (h : Heap Cell) (op : HOp Cell)
    (hb : base ≤ h.length) (hw : match op with | .write a _ => base ≤ a | _ => True) :
    base ≤ (hstep h op).length ∧ ∀ a, a < base → (hstep h op)[a]? = h[a]? := by
  cases op with
  | alloc c =>
    exact ⟨by rw [hstep, List.length_append]; exact Nat.le_add_right_of_le hb,
      fun a ha => List.getElem?_append_left (Nat.lt_of_lt_of_le ha hb)⟩
  | write w c =>
    exact ⟨by rw [hstep, List.length_set]; exact hb,
      fun a ha => List.getElem?_set_ne (Nat.ne_of_gt (Nat.lt_of_lt_of_le ha hw))⟩
  | read a => exact ⟨hb, fun _ _ => rfl⟩

theorem hrun_frame {Cell : Type} (base : Nat) : ∀ (ops : List (HOp Cell)) (g : Heap Cell), base ≤ g.length →
    WritesFresh base ops → ∀ a, a < base → (hrun g ops)[a]? = g[a]?
  | [], _, _, _, _, _ => rfl
  | op :: rest, g, hb, hw, a, ha =>
    have ⟨hb', hsame⟩ := hstep_frame base g op hb (hw op List.mem_cons_self)
    (hrun_frame base rest (hstep g op) hb' (fun o ho => hw o (List.mem_cons_of_mem _ ho)) a ha).trans (hsame a ha)

/-- **Frame.** If every write of a call targets a cell allocated during the call (a clone, a
freshly created element, a copied URL/Options value), every caller-owned cell is the same
after the call as before — for every heap and every operation sequence. -/
theorem frame {Cell : Type} (h : Heap Cell) (ops : List (HOp Cell)) (hw : WritesFresh h.length ops) :
    ∀ a, a < h.length → (hrun h ops)[a]? = h[a]? :=
  hrun_frame h.length ops h (Nat.le_refl _) hw

/-- **The premise, from the source**: every site of the library that writes to a node, a URL
or an Options value, with the local provenance of its target (parameter, clone, freshly
created, copy), is one of the reviewed sites (go/extract/expect/mutationSites.json).  The
writes whose target is a parameter are in functions that are only ever handed nodes of the
converter's private clone or of a processed clone (see DESIGN §6 C10). -/
theorem mutation_sites_tie : Gen.mutationSites = Gen.mutationSitesExpected := by rfl

/-- the converter works on a deep clone of the document element -/
theorem convert_clones_first :
    Gen.converterConvertBody = ["clone := domutil.Clone(root, true)", "domutil.RemoveDuplicateAttributes(clone)",
      "domutil.WalkNodes(clone, dc.visitNodeHandler, dc.exitNodeHandler)"] := by rfl

/-- `ApplyForURL` assigns the page URL (its parsed argument) to a copy of the options -/
theorem apply_for_url_copies :
    Gen.mutationSitesExpected.contains "distiller.ApplyForURL | options-field OriginalURL | urlOpts  [urlOpts := Options{}]" = true := by
  simp [Gen.mutationSitesExpected]

/-! non-vacuity -/
example : hrun [1, 2, 3] [.alloc 9, .write 3 7, .read 0, .alloc 5, .write 4 6] = [1, 2, 3, 7, 6] := by decide +kernel
example : WritesFresh 3 ([.alloc 9, .write 3 7, .read 0] : List (HOp Nat)) := by
  intro op hop; simp at hop; rcases hop with h | h | h <;> subst h <;> simp

end Distill.C10
