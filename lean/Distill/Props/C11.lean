/-
  C11 — The result is a deterministic function of document and options.
-/
import Distill.Gen.Inventory
import Distill.Gen.Funcs
import Distill.Proofs.Basics
namespace Distill.C11
open Distill

theorem mem_foldl_insert {α : Type} [DecidableEq α] (x : α) (l s : List α) :
    x ∈ l.foldl (fun acc a => if a ∈ acc then acc else a :: acc) s ↔ x ∈ s ∨ x ∈ l := by
  induction l generalizing s with
  | nil => simp
  | cons a r ih =>
    have step : x ∈ (if a ∈ s then s else a :: s) ↔ x ∈ s ∨ x = a := by
      split
      · exact ⟨.inl, (·.elim id (· ▸ ‹a ∈ s›))⟩
      · rw [List.mem_cons, or_comm]
    rw [List.foldl_cons, ih, step, List.mem_cons, or_assoc]

/-- set insertion (labels merged into a block, tag names collected into a set, keys copied
into another map): the resulting *set* does not depend on the iteration order -/
theorem insert_perm {α : Type} [DecidableEq α] (l l' : List α) (h : l.Perm l') (s : List α) (x : α) :
    x ∈ l.foldl (fun acc a => if a ∈ acc then acc else a :: acc) s ↔
    x ∈ l'.foldl (fun acc a => if a ∈ acc then acc else a :: acc) s := by
  rw [mem_foldl_insert, mem_foldl_insert, h.mem_iff]

/-- an early-return-false scan (query maps compared key by key) is a conjunction -/
theorem all_perm {α : Type} (p : α → Bool) (l l' : List α) (h : l.Perm l') : l.all p = l'.all p := h.all_eq

/-- choosing the longest of the (at most two) consecutive groups: the maximal *length* does not
depend on the order in which the groups are visited -/
theorem max_perm (l l' : List Nat) (h : l.Perm l') : l.foldl max 0 = l'.foldl max 0 :=
  h.foldl_eq' (fun _ _ _ _ _ => Nat.max_right_comm ..) 0

/-- every `range` over a map in the library is one of the reviewed sites; each is of one of
the three order-independent kinds above, or feeds a value that is sorted / never rendered
(DESIGN §6 C11 has the table).  The page-pattern candidates, whose order decides the result, are
visited in first-seen order and not by a map range (`candidates_not_ranged`). -/
theorem map_ranges_tie : Gen.mapRanges = Gen.mapRangesExpected := by rfl

theorem candidates_not_ranged :
    Gen.mapRanges.all (fun s => s != "internal/pagination/parser.newDetectionStateFromMonotonicNumbers | range pageCandidates") = true := by
  simp only [Gen.mapRanges, List.all_cons, List.all_nil, Bool.and_eq_true, bne_iff_ne, ne_eq, String.reduceEq,
    not_false_eq_true, and_self]

/-- no state survives a call: nothing writes to a package-level variable -/
theorem no_package_writes : Gen.packageWrites = [] := by rfl

/-- the reader and file entry points only parse / open and delegate to `Apply`, so their result is
`Apply`'s on the tree parsed from the same bytes (regenerated statement lists) -/
theorem entry_points_delegate :
    Gen.entryPointBodies = Gen.entryPointBodiesExpected ∧
    Gen.entryPointBodiesExpected.lookup "..ApplyForReader" =
      some ["doc, err := dom.Parse(r)", "if err != nil { return nil, err }", "return Apply(doc, opts)"] ∧
    (Gen.entryPointBodiesExpected.lookup "..ApplyForFile").map (fun l => l.drop 3) = some ["return ApplyForReader(f, opts)"] := by
  refine ⟨rfl, ?_⟩
  simp only [Gen.entryPointBodiesExpected, lookup_cons_ne, List.lookup_cons_self, ne_eq, String.reduceEq,
    not_false_eq_true, Option.map_some, List.drop_succ_cons, List.drop_zero, and_self]

end Distill.C11
