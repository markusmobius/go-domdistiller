/-
  C02 — Distilled text is an ordered excerpt of the source; nothing invented or moved.

  Proved here, for every tree, every converter mode, every answer of the regexps /
  extractors / classifiers, and every selection ("verdict") of Text elements:
  the nodes of the selected Text elements, concatenated in element order, are a sublist of
  the source's text and br nodes in document order (so: only source nodes, each at most once,
  in source order).  Rendering of a Text element (tree clone of its window) and of tables /
  figures is covered by the black-box oracle and the render model (see DESIGN.md).
-/
import Distill.Props.RenderProps
import Distill.Proofs.Convert
import Distill.Proofs.Compose
import Distill.Props.FiltersProps
namespace Distill.C02
open Distill

/-- **C02 (element level).** -/
theorem excerpt (cfg : CCfg) (A : CAtoms) (anc : List String) (hp : Bool) (n : Node) (keep : TextEl → Bool) :
    ((((textsOf (buildDoc (convert cfg A anc hp n))).filter keep).map (·.win)).flatten).Sublist n.brTextIds :=
  (List.Sublist.flatten (List.filter_sublist.map _)).trans
    ((builder_windows (convert cfg A anc hp n)).2.trans (convertNode_nodeIds_sublist cfg A anc hp n))

/-- windows are non-empty, strictly increasing and pairwise disjoint slices: no node is in two
Text elements (for every event sequence whatsoever, not only converter output) -/
theorem windows_partition (evs : List BEv) : Slices (nodeIds evs) 0 (textsOf (buildDoc evs)) :=
  (builder_windows evs).1

/-- the text nodes handed to the builder are source text nodes, in source order -/
theorem handed_text_is_source_text (cfg : CCfg) (A : CAtoms) (anc : List String) (hp : Bool) (n : Node) :
    (textEvIds (convert cfg A anc hp n)).Sublist n.textIds :=
  (convertNode_visible_sublist cfg A anc hp n).trans (Node.visTextIds_sublist A n)

/-- **C02 (selection and rendering composed).** Whatever Text elements the classifier keeps,
the text nodes their renderings hold (each rendering holds `textIds.filter (· ∈ window)`:
`RenderProps.text_render_excerpt`), concatenated in element order as `Document.GenerateOutput`
does (`RenderProps.doc_output_spec`), are a sublist of the source's text nodes — only source
text, every node at most once, in source order.  The hypothesis says that node ids are distinct
(they are pre-order positions). -/
theorem rendered_excerpt (cfg : CCfg) (A : CAtoms) (anc : List String) (hp : Bool) (n : Node)
    (keep : TextEl → Bool) (hn : n.brTextIds.Nodup) :
    ((((textsOf (buildDoc (convert cfg A anc hp n))).filter keep).map
        (fun t => n.textIds.filter (fun i => t.win.contains i))).flatten).Sublist n.textIds := by
  have h := filters_flatten hn (textIds_sublist_brTextIds n) _ (excerpt cfg A anc hp n keep)
  rw [List.map_map] at h
  simp only [List.contains_eq_mem]
  exact h ▸ List.filter_sublist

/-- the same without hypothesis, for every tree numbered in document order (as the harness and
the correspondence number them) -/
theorem rendered_excerpt_preorder (cfg : CCfg) (A : CAtoms) (anc : List String) (hp : Bool) (n : Node) (k : Nat)
    (keep : TextEl → Bool) :
    ((((textsOf (buildDoc (convert cfg A anc hp (relabel k n)))).filter keep).map
        (fun t => (relabel k n).textIds.filter (fun i => t.win.contains i))).flatten).Sublist (relabel k n).textIds :=
  rendered_excerpt cfg A anc hp (relabel k n) keep (relabel_brTextIds_nodup k n)

/-! non-vacuity: a page with a paragraph, a hidden div and a list; windows [2,4] and [9] -/
def A0 : CAtoms :=
  { styleDisplay := fun i => if i = 5 then "none" else "", visHidden := fun _ => false, byline := fun _ => false,
    rxUnlikely := fun _ => false, rxMaybe := fun _ => false, embed := fun _ => .none, dataTable := fun _ => false,
    blank := fun _ => false, words := fun _ => 1 }
def page : Node :=
  .elem 0 "body" [] [
    .elem 1 "p" [] [.text 2 "a", .elem 3 "b" [] [.text 4 "b"]],
    .elem 5 "div" [{ key := "style", val := "display:none" }] [.text 6 "hidden"],
    .elem 7 "ul" [] [.elem 8 "li" [] [.text 9 "c"]] ]
example : (textsOf (buildDoc (convert { skipUnlikely := true } A0 [] false page))).map (·.win) = [[2, 4], [9]] := by
  decide +kernel
example : page.brTextIds.Nodup ∧ page.brTextIds = [2, 4, 6, 9] := by decide +kernel

end Distill.C02
