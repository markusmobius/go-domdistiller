/-
  C12 — Apply is safe for concurrent use.
-/
import Distill.Model.Heap
import Distill.Gen.Inventory
namespace Distill.C12
open Distill

theorem runSchedule_getElem? {Shared Priv : Type} (progs : List (ThreadProg Shared Priv)) (sh : Shared)
    (sched : List Nat) (ps : List Priv) (j : Nat) :
    (runSchedule progs sh ps sched)[j]? =
      ps[j]?.map fun st => match progs[j]? with
        | some p => runAlone p sh st (sched.count j)
        | none => st := by
  induction sched generalizing ps with
  | nil => rw [runSchedule]; cases ps[j]? <;> cases progs[j]? <;> rfl
  | cons i rest ih =>
    rw [runSchedule]
    by_cases hij : i = j
    · subst hij
      cases hp : progs[i]? <;> cases hs : ps[i]? <;> simp [ih, hp, hs, runAlone, List.getElem?_set_self']
    · split <;> simp [ih, List.getElem?_set_ne hij, hij]

/-- a schedule that never names thread `j` leaves its private state alone -/
theorem runSchedule_other {Shared Priv : Type} (progs : List (ThreadProg Shared Priv)) (sh : Shared) :
    ∀ (sched : List Nat) (ps : List Priv) (j : Nat), j ∉ sched →
      (runSchedule progs sh ps sched)[j]? = ps[j]? := by
  intro sched ps j hj
  rw [runSchedule_getElem?, List.count_eq_zero_of_not_mem hj]
  cases ps[j]? <;> cases progs[j]? <;> rfl

/-- **Non-interference.**  Threads that only read the shared part (the input document, the
options, the package-level tables and compiled regexps) and write only their own private state
compute, under *every* schedule, exactly what they compute when run alone: the private state of
thread `j` after the schedule is its state after running alone for as many steps as the
schedule gave it. -/
theorem noninterference {Shared Priv : Type} (progs : List (ThreadProg Shared Priv)) (sh : Shared)
    (sched : List Nat) (ps : List Priv) (j : Nat) (p : ThreadProg Shared Priv) (st : Priv)
    (hp : progs[j]? = some p) (hs : ps[j]? = some st) :
    (runSchedule progs sh ps sched)[j]? = some (runAlone p sh st (sched.count j)) := by
  rw [runSchedule_getElem?, hp, hs]; rfl

/-- **The premise, from the source**: no function of the library writes to a package-level
variable (assignment, inc/dec, address-of, delete, mutating method) — the regenerated list is
empty — and the package-level variables themselves are the reviewed ones. -/
theorem no_shared_writes : Gen.packageWrites = [] := by rfl
theorem package_vars_tie : Gen.packageVars = Gen.packageVarsExpected := by rfl

/-! non-vacuity: two threads, one adding and one multiplying by the shared value, interleaved -/
example : runSchedule [⟨fun sh p => p + sh⟩, ⟨fun sh p => p * sh⟩] 2 [0, 1] [0, 1, 1, 0, 1] = [4, 8] := by decide +kernel

end Distill.C12
