/-
  C17 — Conventional pagers are resolved correctly (page-number algorithm).

  The property's quantifier is finite: N in 2..12, k in 1..N, the URL pattern families.  For every
  cell the model of the detection, run on the page-pattern answers the implementation itself
  gives for the family's URLs (`Gen.pagerFamilies`, regenerated on every run) and on the group
  the DOM scan yields for a conventional pager (1..N ascending, the current page without URL;
  the harness checks for every enumerated markup that the real scan yields exactly this group),
  returns the link of page k+1 and the link of page k−1.
-/
import Distill.Gen.PagerFamily
namespace Distill.C17
open Distill.Pg Distill.Gen

def atomsOf (d : FamDoc) : Atoms :=
  { urls := d.urls,
    isPaging := fun k u => match d.paging.find? (fun e => e.1 == k) with
      | some e => e.2.contains u
      | none => false,
    docURL := d.docURL, docParses := d.docParses }

/-- what the DOM scan yields for a conventional pager: 1..N ascending, page k without URL -/
def pagerGroups (pages : List String) (n k : Nat) : List PGroup :=
  [{ list := (List.range n).map (fun i =>
       ({ num := ((i + 1 : Nat) : Int), url := if i + 1 == k then "" else pages.getD i "" } : PInfo)),
     deltaSign := 1 }]

/-- (NextPage, PrevPage) the pager shows -/
def expected (pages : List String) (n k : Nat) : String × String :=
  (if k < n then pages.getD k "" else "", if k > 1 then pages.getD (k - 2) "" else "")

def result (f : PagerFamily) (n k : Nat) : Option (String × String) :=
  match f.docs[k - 1]? with
  | none => none
  | some d => some (numberPrevNext (detectParamInfo (atomsOf d) (pagerGroups f.pages n k) d.docArg) d.strPage d.escPage)

/-- page 1 addressed without the page parameter (the links 2 … N all follow the pattern) -/
def resultBare (f : PagerFamily) (n : Nat) : String × String :=
  let d := f.docBare
  numberPrevNext (detectParamInfo (atomsOf d) (pagerGroups f.pages n 1) d.docArg) d.strPage d.escPage

def allN : List Nat := (List.range 11).map (· + 2)

def allCells : List (Nat × Nat) :=
  (List.range 11).flatMap (fun j => (List.range (j + 2)).map (fun i => (j + 2, i + 1)))

theorem allCells_complete (n k : Nat) (hn : 2 ≤ n ∧ n ≤ 12) (hk : 1 ≤ k ∧ k ≤ n) : (n, k) ∈ allCells := by
  simp only [allCells, List.mem_flatMap, List.mem_range, List.mem_map, Prod.mk.injEq]
  exact ⟨n - 2, by omega, k - 1, by omega, by omega, by omega⟩

/-! ### what the kernel evaluates

`numberPrevNext` ends with the clean-up of `javascript:` position holders (`dropJs`), which reads its two
answers character by character; on the expected answers, which are page URLs of the family or empty,
it is the identity.  So the sweep runs `numberPrevNextRaw` and the page URLs are looked at once, and
there only at their first byte (decoding UTF-8 is what makes `String.toList` dear in the kernel). -/

/-- 106 is `'j'` -/
theorem isJs_firstByte {s : String} (h : isJs s = true) : s.toByteArray.data.toList.head? = some 106 := by
  obtain ⟨t, ht⟩ := List.isPrefixOf_iff_prefix.1 h
  have e : "javascript:".toList = 'j' :: "avascript:".toList := by decide
  rw [← String.ofList_toList (s := s), ← ht, e]
  simp [String.ofList, List.utf8Encode, String.utf8EncodeChar]

/-- "the answers are the expected ones" before the clean-up, for the document `d` seen as page `k` of `n` -/
def rawOk (d : FamDoc) (pages : List String) (n k : Nat) : Bool :=
  numberPrevNextRaw (detectParamInfo (atomsOf d) (pagerGroups pages n k) d.docArg) d.strPage d.escPage
    == expected pages n k

def famOk (f : PagerFamily) : Bool :=
  f.pages.all (fun p => p.toByteArray.data.toList.head? != some 106) &&
  allCells.all (fun c => (f.docs[c.2 - 1]?).any (rawOk · f.pages c.1 c.2)) &&
  allN.all (rawOk f.docBare f.pages · 1)

theorem dropJs_expected {pages : List String} (hjs : ∀ p ∈ pages, isJs p = false) (n k : Nat) :
    (dropJs (expected pages n k).1, dropJs (expected pages n k).2) = expected pages n k := by
  have hget (i : Nat) : dropJs (pages.getD i "") = pages.getD i "" := by
    have : isJs (pages.getD i "") = false := by
      rw [List.getD_eq_getElem?_getD]
      cases hp : pages[i]? with
      | none => decide
      | some p => exact hjs p (List.mem_of_getElem? hp)
    rw [dropJs, this]; rfl
  have hnil : dropJs "" = "" := by decide
  unfold expected
  split <;> split <;> simp only [hget, hnil]

theorem rawOk_clean {d : FamDoc} {pages : List String} (hjs : ∀ p ∈ pages, isJs p = false) {n k : Nat}
    (h : rawOk d pages n k = true) :
    numberPrevNext (detectParamInfo (atomsOf d) (pagerGroups pages n k) d.docArg) d.strPage d.escPage
      = expected pages n k := by
  simp only [numberPrevNext, eq_of_beq h, dropJs_expected hjs]

theorem famOk_spec {f : PagerFamily} (h : famOk f = true) :
    (∀ p ∈ f.pages, isJs p = false) ∧
    (∀ c ∈ allCells, ∃ d, f.docs[c.2 - 1]? = some d ∧ rawOk d f.pages c.1 c.2 = true) ∧
    ∀ n ∈ allN, rawOk f.docBare f.pages n 1 = true := by
  simp only [famOk, Bool.and_eq_true, List.all_eq_true, Option.any_eq_true, bne_iff_ne] at h
  exact ⟨fun p hp => Bool.eq_false_iff.2 fun hj => h.1.1 p hp (isJs_firstByte hj), h.1.2, h.2⟩

theorem famOk_cells {f : PagerFamily} (h : famOk f = true) : ∀ c ∈ allCells, result f c.1 c.2 = some (expected f.pages c.1 c.2) := by
  intro c hc
  obtain ⟨hjs, hcells, _⟩ := famOk_spec h
  obtain ⟨d, hd, hr⟩ := hcells c hc
  simp [result, hd, rawOk_clean hjs hr]

theorem famOk_bare {f : PagerFamily} (h : famOk f = true) : ∀ n ∈ allN, resultBare f n = expected f.pages n 1 := by
  intro n hn
  obtain ⟨hjs, _, hbare⟩ := famOk_spec h
  exact rawOk_clean hjs (hbare n hn)

end Distill.C17
