/-
  C14 — Metadata follows the documented precedence and honours opt-out.
-/
import Distill.Proofs.IEReader
import Distill.Model.OpenGraph
import Distill.Model.MarkupPage
import Distill.Gen.Tables
import Distill.Gen.Funcs
import Distill.Model.Markup
namespace Distill.C14
open Distill

/-- OpenGraph (conditionally), then schema.org, then IE Reading View -/
theorem accessor_order_tie : Gen.accessorOrder =
    [("ogParser", "err == nil && ogParser != nil"),
     ("schemaorg.NewParser(root, timingInfo)", ""),
     ("iereader.NewParser(root)", "")] := by rfl

/-- every getter asks the accessors in list order and takes the first acceptable answer -/
theorem getter_shapes_tie : Gen.getterShapes =
    [("Title", "Title", "first-nonempty-string"), ("Type", "Type", "first-nonempty-string"),
     ("URL", "URL", "first-nonempty-string"), ("Images", "Images", "first-nonempty-list"),
     ("Description", "Description", "first-nonempty-string"), ("Publisher", "Publisher", "first-nonempty-string"),
     ("Copyright", "Copyright", "first-nonempty-string"), ("Author", "Author", "first-nonempty-string"),
     ("Article", "Article", "first-non-nil"), ("OptOut", "OptOut", "any-true")] := by rfl

/-- `MarkupInfo()` tests opt-out first, fills each scalar field from its own getter, and copies
the article / images field by field from the single chosen article / image list -/
theorem markup_info_tie :
    Gen.markupOptOutFirst = true ∧
    Gen.markupInfoFields = [("Title", "ps.Title()"), ("Type", "ps.Type()"), ("URL", "ps.URL()"),
      ("Description", "ps.Description()"), ("Publisher", "ps.Publisher()"), ("Copyright", "ps.Copyright()"),
      ("Author", "ps.Author()")] ∧
    Gen.markupArticleFields = [("PublishedTime", "article.PublishedTime"), ("ModifiedTime", "article.ModifiedTime"),
      ("ExpirationTime", "article.ExpirationTime"), ("Section", "article.Section"),
      ("Authors", "append([]string{}, article.Authors...)")] ∧
    Gen.markupImageFields = [("URL", "image.URL"), ("SecureURL", "image.SecureURL"), ("Type", "image.Type"),
      ("Caption", "image.Caption"), ("Width", "image.Width"), ("Height", "image.Height")] := by
  refine ⟨rfl, rfl, rfl, rfl⟩

/-- **OpenGraph gate** (about the switch regenerated from `opengraph.NewParser`): the parser is
usable exactly when title, type, url and at least one image are all present -/
theorem og_gate (a : OgAtoms) :
    Gen.ogGate a = some (decide (a.title ≠ "" ∧ a.type ≠ "" ∧ a.url ≠ "" ∧ a.nImages ≠ 0)) := by
  simp [Gen.ogGate, Bool.and_assoc, Bool.beq_eq_decide_eq]

/-! ### precedence: each getter is a first match (`List.find?`, `List.findSome?`) in accessor order -/

theorem firstNonEmpty_eq_find (f : MSource → String) (l : List MSource) :
    firstNonEmpty f l = ((l.find? (f · != "")).map f).getD "" := by
  fun_induction firstNonEmpty f l <;> simp [*]

theorem firstArticle_eq_findSome (l : List MSource) : firstArticle l = l.findSome? (·.article) := by
  fun_induction firstArticle l <;> simp [*]

/-- **Field precedence.** A field comes from the first source, in accessor order, that
provides a non-empty value … -/
theorem field_precedence (f : MSource → String) (pre : List MSource) (s : MSource) (post : List MSource)
    (hpre : ∀ p ∈ pre, f p = "") (hs : f s ≠ "") :
    firstNonEmpty f (pre ++ s :: post) = f s := by
  have h : (pre ++ s :: post).find? (f · != "") = some s :=
    List.find?_eq_some_iff_append.mpr ⟨bne_iff_ne.mpr hs, pre, post, rfl, fun p hp => by simp [hpre p hp]⟩
  rw [firstNonEmpty_eq_find, h]; rfl

/-- … and is empty if no source provides it. -/
theorem field_empty (f : MSource → String) (srcs : List MSource) (h : ∀ p ∈ srcs, f p = "") :
    firstNonEmpty f srcs = "" := by
  rw [firstNonEmpty_eq_find, List.find?_eq_none.mpr fun p hp => by simp [h p hp]]
  rfl

/-- the combined record uses exactly these getters (no field mixes sources in any other way) -/
theorem combine_fields (srcs : List MSource) (h : srcs.any (·.optOut) = false) :
    (combine srcs).title = firstNonEmpty (·.title) srcs ∧
    (combine srcs).type = firstNonEmpty (·.type) srcs ∧
    (combine srcs).url = firstNonEmpty (·.url) srcs ∧
    (combine srcs).description = firstNonEmpty (·.description) srcs ∧
    (combine srcs).publisher = firstNonEmpty (·.publisher) srcs ∧
    (combine srcs).copyright = firstNonEmpty (·.copyright) srcs ∧
    (combine srcs).author = firstNonEmpty (·.author) srcs := by
  simp [combine, h]

/-- **Article taken wholesale**: the article sub-record is, as a whole, the article of the
first source that has one (so no field of it can come from another source); the empty
record when no source has one. -/
theorem article_wholesale (srcs : List MSource) (h : srcs.any (·.optOut) = false) :
    (∃ pre s post a, srcs = pre ++ s :: post ∧ (∀ p ∈ pre, p.article = none) ∧ s.article = some a ∧
        (combine srcs).article = a) ∨
    ((∀ p ∈ srcs, p.article = none) ∧ (combine srcs).article = {}) := by
  have hc : (combine srcs).article = (srcs.findSome? (·.article)).getD {} := by
    simp [combine, h, firstArticle_eq_findSome]
  rw [hc]
  cases hf : srcs.findSome? (·.article) with
  | none => exact .inr ⟨List.findSome?_eq_none_iff.mp hf, rfl⟩
  | some a =>
    obtain ⟨pre, s, post, hsplit, hs, hpre⟩ := List.findSome?_eq_some_iff.mp hf
    exact .inl ⟨pre, s, post, a, hsplit, hpre, hs, rfl⟩

/-- **Opt-out**: if any source reports opt-out the whole record is empty. -/
theorem optout_empty (srcs : List MSource) (h : ∃ s ∈ srcs, s.optOut = true) : combine srcs = {} := by
  rw [combine, if_pos (List.any_eq_true.mpr h)]

/-- OpenGraph takes part only when usable; schema.org always precedes IE Reading View -/
theorem sources_order (u : Bool) (og schema ie : MSource) :
    sources u og schema ie = if u then [og, schema, ie] else [schema, ie] := by
  cases u <;> rfl

/-! ### the IE Reading View accessor, from the document tree (model: Distill.Model.IEReader,
stage `iereader`) -/

theorem ie_reader_tie : Gen.ieReaderBodies = Gen.ieReaderBodiesExpected := by rfl

/-- every `meta` element anywhere below the document element — `head` or `body`, however deep —
is among the ones the accessor scans -/
theorem optout_tag_anywhere (root e : Node) (h : IE.OccursL e root.kids) (ht : e.tag = "meta") :
    e ∈ IE.withTag root "meta" := by
  unfold IE.withTag IE.below
  exact List.mem_filter.mpr ⟨IE.mem_descElemsL_of_occurs e root.kids h, by simp [ht]⟩

/-- **Opt-out, from the page**: when the first scanned `meta` named IE_RM_OFF (any letter case)
says `true` (any letter case), `MarkupInfo` is entirely empty — whatever OpenGraph and schema.org
provide. -/
theorem page_optout_empties (A : IE.Atoms) (root m : Node) (before after : List Node) (others : List MSource)
    (hsplit : IE.withTag root "meta" = before ++ m :: after)
    (hbefore : ∀ x ∈ before, IE.isOptOutName A x = false) (hm : IE.isOptOutName A m = true)
    (htrue : IE.saysTrue A m = true) :
    combine (others ++ [IE.source A root]) = {} := by
  apply optout_empty
  refine ⟨IE.source A root, by simp, ?_⟩
  rw [IE.source_optOut, IE.optOut_first_decides A root m before after hsplit hbefore hm, htrue]

/-- and a page without such a tag does not opt out through this accessor -/
theorem page_without_tag_no_optout (A : IE.Atoms) (root : Node)
    (h : ∀ x ∈ IE.withTag root "meta", IE.isOptOutName A x = false) : (IE.source A root).optOut = false := by
  rw [IE.source_optOut]; exact IE.optOut_none A root h

/-! ### the OpenGraph parser, from the document tree (model: Distill.Model.OpenGraph, stage
`opengraph`) -/

theorem open_graph_tie : Gen.openGraphBodies = Gen.openGraphBodiesExpected := by rfl

/-- **The gate, from the page**: the parsed record is usable exactly when the regenerated switch of
`NewParser` lets it through — title, type, url non-empty and at least one verified image. -/
theorem page_og_gate (lower : String → String) (P : OG.Prefixes) (root : Node) :
    Gen.ogGate { title := (OG.parse lower P root).st.get "title", type := (OG.parse lower P root).st.get "type",
                 url := (OG.parse lower P root).st.get "url", nImages := (OG.parse lower P root).images.length } =
      some (OG.usable (OG.parse lower P root)) := by
  have h : ∀ l : List MImage, l.isEmpty = decide (l = []) := fun l => by cases l <;> rfl
  rw [og_gate, OG.usable]
  simp [bne, Bool.and_assoc, Bool.beq_eq_decide_eq, h]

/-- a later `meta` with the same property overwrites the earlier value (the property table is a map) -/
theorem og_last_value_wins (s : OG.St) (k v : String) : (s.set k v).get k = v := by
  simp [OG.St.get, OG.St.set]

/-- what `stepImportant` does with an `article` property whose name matches: the article gate is
looked at again (`isArticle` is only ever raised), and a tag met while it is shut is dropped -/
theorem stepImportant_article (lower : String → String) (P : OG.Prefixes) (content property : String) (s : OG.St)
    (ip : OG.Important) (hip : ip.type = "article")
    (hpre : OG.hasPrefix property (P.get ip.pfx ++ ":" ++ ip.name) = true) :
    OG.stepImportant lower P content (s, property) ip =
      let property' := OG.dropPrefix property (P.get ip.pfx ++ ":")
      let s1 : OG.St := { s with isArticle := s.isArticle || lower (s.get "type") == "article" }
      if !s1.isArticle then (s1, property')
      else if property' == "author" then ({ s1 with authors := s1.authors ++ [content] }, property')
      else (s1.set ip.name content, property') := by
  obtain ⟨name, pfx, type⟩ := ip
  obtain ⟨table, images, pc, isp, isArt, authors⟩ := s
  subst hip
  cases isArt <;> simp [OG.stepImportant, hpre, OG.St.get]

/-- **The article gate looks again at every tag**: an `article:*` tag (other than `author`) that
comes when the table holds `og:type = article` sets its field — whether or not earlier `article:*`
tags, met before the type, were dropped (`s.isArticle` is arbitrary here). A parser that decides once,
at the first `article:*` tag, does not satisfy this. -/
theorem article_tag_after_type_counts (lower : String → String) (P : OG.Prefixes) (content property : String)
    (s : OG.St) (ip : OG.Important) (hip : ip.type = "article")
    (hpre : OG.hasPrefix property (P.get ip.pfx ++ ":" ++ ip.name) = true)
    (hty : lower (s.get "type") = "article")
    (hna : OG.dropPrefix property (P.get ip.pfx ++ ":") ≠ "author") :
    let r := (OG.stepImportant lower P content (s, property) ip).1
    r.get ip.name = content ∧ r.isArticle = true := by
  rw [stepImportant_article lower P content property s ip hip hpre]
  simp only [hty, beq_self_eq_true, Bool.or_true, Bool.not_true, Bool.false_eq_true, if_false,
    beq_eq_false_iff_ne.mpr hna]
  exact ⟨og_last_value_wins _ _ _, rfl⟩

/-- … and one that comes while the table holds no `article` type is dropped: table and authors stay -/
theorem article_tag_before_type_dropped (lower : String → String) (P : OG.Prefixes) (content property : String)
    (s : OG.St) (ip : OG.Important) (hip : ip.type = "article") (hs : s.isArticle = false)
    (hty : lower (s.get "type") ≠ "article") :
    let r := (OG.stepImportant lower P content (s, property) ip).1
    r.table = s.table ∧ r.authors = s.authors ∧ r.isArticle = false := by
  rcases Bool.eq_false_or_eq_true (OG.hasPrefix property (P.get ip.pfx ++ ":" ++ ip.name)) with hpre | hpre
  · simp [stepImportant_article lower P content property s ip hip hpre, hs, hty]
  · simp [OG.stepImportant, hpre, hs]

/-- the premises are met by an ordinary page: `og:type = article` in the table, then `article:section` -/
example : (OG.stepImportant id {} "politics" (({} : OG.St).set "type" "article", "article:section")
    ⟨"section", .article, "article"⟩).1.get "section" = "politics" :=
  (article_tag_after_type_counts id {} "politics" "article:section" _ ⟨"section", .article, "article"⟩ rfl
    (by decide +kernel) (by decide +kernel) (by decide +kernel)).1

/-- the OpenGraph accessor never opts out and never provides a copyright -/
theorem og_no_optout (lower : String → String) (p : OG.Parsed) :
    (OG.source lower p).optOut = false ∧ (OG.source lower p).copyright = "" := ⟨rfl, rfl⟩

/-! ### the schema.org accessor and the whole of `MarkupInfo`, from the document tree (models:
Distill.Model.SchemaOrg, Distill.Model.MarkupPage; stages `schemaorg`, `markuppage`) -/

theorem schema_org_tie : Gen.schemaOrgBodies = Gen.schemaOrgBodiesExpected := by rfl

def typeName : SO.SType → String
  | .unsupported => "Unsupported" | .image => "Image" | .article => "Article" | .person => "Person" | .organization => "Organization"

/-- the type table and the tag → attribute table the model spells out are the ones in the source -/
theorem schema_tables_tie :
    Gen.schemaTypeURLs.all (fun p => typeName (SO.typeOfURL p.1) == p.2) = true ∧
    Gen.tagAttributeMap.all (fun p => (SO.attrOfTag p.1).map (fun a => "\"" ++ a ++ "\"") == some p.2) = true := by
  constructor <;> decide +kernel

/-- a type URL outside the table is unsupported -/
theorem schema_type_complete (u : String) (h : SO.typeOfURL u ≠ .unsupported) :
    (Gen.schemaTypeURLs.map (·.1)).contains u = true := by
  refine Decidable.by_contra fun hn => h ?_
  simp [Gen.schemaTypeURLs, not_or] at hn
  simp [SO.typeOfURL, hn]

/-- **Accessor order, from the page**: OpenGraph takes part only when its parsed record passes the
gate; schema.org always precedes IE Reading View. -/
theorem page_sources_order (A : PageAtoms) (root : Node) :
    pageSources A root =
      (if OG.usable (OG.parse A.lower A.prefixes root) then [OG.source A.lower (OG.parse A.lower A.prefixes root)] else []) ++
      [SO.source A.lower root, IE.source { lower := A.lower, upper := A.upper, vis := A.vis } root] := rfl

/-- **Opt-out, end to end**: when the first scanned `meta` named IE_RM_OFF says `true`, the
`MarkupInfo` of the page is entirely empty, whatever OpenGraph and schema.org markup it carries. -/
theorem page_markup_optout (A : PageAtoms) (root m : Node) (before after : List Node)
    (hsplit : IE.withTag root "meta" = before ++ m :: after)
    (hbefore : ∀ x ∈ before, IE.isOptOutName { lower := A.lower, upper := A.upper, vis := A.vis } x = false)
    (hm : IE.isOptOutName { lower := A.lower, upper := A.upper, vis := A.vis } m = true)
    (htrue : IE.saysTrue { lower := A.lower, upper := A.upper, vis := A.vis } m = true) :
    pageMarkup A root = {} := by
  rw [pageMarkup, page_sources_order, List.append_cons]
  exact page_optout_empties _ root m before after _ hsplit hbefore hm htrue

theorem sources_optOut (u : Bool) {og schema : MSource} (ie : MSource) (hog : og.optOut = false)
    (hs : schema.optOut = false) : (sources u og schema ie).any (·.optOut) = ie.optOut := by
  cases u <;> simp [sources, hog, hs]

/-- only the IE Reading View accessor can opt out -/
theorem only_ie_opts_out (A : PageAtoms) (root : Node) :
    (pageSources A root).any (·.optOut) = (IE.source { lower := A.lower, upper := A.upper, vis := A.vis } root).optOut :=
  sources_optOut _ _ (og_no_optout _ _).1 rfl

/-! ### non-vacuity -/
def ogS : MSource := { title := "OG title", type := "Article", url := "http://e/", images := [{ url := "i.png" }],
                       article := some { sect := "news" } }
def scS : MSource := { title := "Schema title", author := "Jane", copyright := "(c) S", article := some { modified := "2021" } }
def ieS : MSource := { title := "IE title", copyright := "(c) IE", article := some {} }

example : (combine (sources true ogS scS ieS)).title = "OG title" ∧
          (combine (sources true ogS scS ieS)).author = "Jane" ∧
          (combine (sources true ogS scS ieS)).copyright = "(c) S" ∧
          (combine (sources true ogS scS ieS)).article = { sect := "news" } := by decide +kernel
example : (combine (sources false ogS scS ieS)).title = "Schema title" ∧
          (combine (sources false ogS scS ieS)).article = { modified := "2021" } := by decide +kernel
example : combine (sources true ogS scS { ieS with optOut := true }) = {} := by decide +kernel

end Distill.C14
