/-
  C16 — Pagination links are real, same-site, fetchable URLs.

  Page-number algorithm: whatever `FindPagination` returns is drawn from the URLs the DOM scan
  put into the groups of adjacent numbers (every one of them the normalised href of an anchor
  that passed the host test, or a javascript:/empty position holder) or is the document URL the
  detection inserts as first page; it is never a javascript: position holder, and the previous
  page is never the page itself.

  Prev/next algorithm: the result is the href of a candidate (an anchor that passed the
  allowed-prefix test) that is not banned and scored at least 50, and no other eligible
  candidate scored higher.
-/
import Distill.Proofs.ScanGroups
import Distill.Props.LinkScoreProps
import Distill.Props.AbsURLProps   -- among this property's obligations (lean/obligations.json)
import Distill.Proofs.Pagination
import Distill.Proofs.PageGroups
import Distill.Gen.Funcs
namespace Distill.C16
open Distill.Pg

/-- every URL the DOM scan recorded -/
abbrev groupURLs (gs : List PGroup) : List String := groupURLs' gs

/-- where a URL in the detection result can come from -/
def Src (A : Atoms) (gs : List PGroup) (u : String) : Prop :=
  u ∈ groupURLs gs ∨ u = A.docURL ∨ u = trimPathSlash A.docURL

/-- the page list of the detected parameter only holds scanned URLs, the document URL, or "" -/
theorem detect_pages_src (A : Atoms) (gs : List PGroup) (arg : String) :
    ∀ p ∈ (detectParamInfo A gs arg).pages, p.url = "" ∨ Src A gs p.url :=
  (Pg.detect_src (Src A gs) A gs arg (.inr (.inl rfl)) (.inr (.inr rfl)) fun _ hu => .inr (.inl hu)).1

theorem detect_next_src (A : Atoms) (gs : List PGroup) (arg : String) :
    (detectParamInfo A gs arg).next = "" ∨ Src A gs (detectParamInfo A gs arg).next :=
  (Pg.detect_src (Src A gs) A gs arg (.inr (.inl rfl)) (.inr (.inr rfl)) fun _ hu => .inr (.inl hu)).2

/-- **Page-number algorithm.**  NextPage and PrevPage are empty or a scanned URL / the document
URL, never a javascript: position holder; PrevPage is never the page itself. -/
theorem number_links (A : Atoms) (gs : List PGroup) (arg s1 s2 : String) :
    let r := numberPrevNext (detectParamInfo A gs arg) s1 s2
    (r.1 = "" ∨ (isJs r.1 = false ∧ Src A gs r.1)) ∧
    (r.2 = "" ∨ (isJs r.2 = false ∧ Src A gs r.2 ∧ r.2 ≠ s1 ∧ r.2 ≠ s2)) :=
  Pg.number_links A gs arg s1 s2

/-- every URL in the groups the DOM scan leaves is empty or the URL `getPageInfoAndText` gives for an
anchor of the tree -/
theorem scan_group_urls (S : Scan.A) (root : Node) (gs : List PGroup) (h : Scan.scanGroups S root = some gs) :
    ∀ u ∈ groupURLs gs, u = "" ∨ ∃ id n, S.pageInfo id = some (n, u) := by
  obtain ⟨ops, hops, rfl⟩ := Option.map_eq_some_iff.1 h
  intro u hu
  simp only [groupURLs, groupURLs', List.mem_flatMap, List.mem_map] at hu
  obtain ⟨g, hg, q, hq, rfl⟩ := hu
  have ho := Pg.mem_added.1 (Pg.runOps_groups_from_added ops g hg q hq)
  exact (Scan.scanOps_provenance S root ops hops _ ho).imp_right fun ⟨id, hid⟩ => ⟨id, q.num, hid⟩

/-- **Page-number algorithm, from the DOM to the result**: for every tree, with the scan, the groups,
the detection and the final selection all in the model, NextPage is empty or — never a `javascript:`
holder — the URL `getPageInfoAndText` gives for an anchor of the tree (by `page_info_provenance`: the
cleaned form of an href on the page's host), or the document URL the detection may insert as first
page. -/
theorem page_number_next_from_dom (S : Scan.A) (root : Node) (gs : List PGroup) (h : Scan.scanGroups S root = some gs)
    (A : Atoms) (arg s1 s2 : String) :
    let r := numberPrevNext (detectParamInfo A gs arg) s1 s2
    r.1 = "" ∨ (isJs r.1 = false ∧
      ((∃ id n, S.pageInfo id = some (n, r.1)) ∨ r.1 = A.docURL ∨ r.1 = trimPathSlash A.docURL)) :=
  (numberPrevNext_src (fun u => (∃ id n, S.pageInfo id = some (n, u)) ∨ u = A.docURL ∨ u = trimPathSlash A.docURL)
    A gs arg s1 s2 (Or.inr (Or.inl rfl)) (Or.inr (Or.inr rfl))
    fun u hu => (scan_group_urls S root gs h u hu).imp_right Or.inl).1

/-- … and likewise PrevPage, which in addition is never the page itself -/
theorem page_number_prev_from_dom (S : Scan.A) (root : Node) (gs : List PGroup) (h : Scan.scanGroups S root = some gs)
    (A : Atoms) (arg s1 s2 : String) :
    let r := numberPrevNext (detectParamInfo A gs arg) s1 s2
    r.2 = "" ∨ (isJs r.2 = false ∧ r.2 ≠ s1 ∧ r.2 ≠ s2 ∧
      ((∃ id n, S.pageInfo id = some (n, r.2)) ∨ r.2 = A.docURL ∨ r.2 = trimPathSlash A.docURL)) :=
  (numberPrevNext_src (fun u => (∃ id n, S.pageInfo id = some (n, u)) ∨ u = A.docURL ∨ u = trimPathSlash A.docURL)
    A gs arg s1 s2 (Or.inr (Or.inl rfl)) (Or.inr (Or.inr rfl))
    fun u hu => (scan_group_urls S root gs h u hu).imp_right Or.inl).2.imp_right
      fun ⟨hj, hq, hn1, hn2⟩ => ⟨hj, hn1, hn2, hq⟩

/-- when the document URL the detection works with (and may insert as first page) is one of the
two spellings `FindPagination` compares with — `s2`, the escaped form without user info, is
how `DetectParamInfo` spells it — PrevPage is empty or a scanned URL, never the page itself -/
theorem number_prev_is_anchor (A : Atoms) (gs : List PGroup) (arg s1 s2 : String)
    (h1 : A.docURL = s1 ∨ A.docURL = s2) (h2 : trimPathSlash A.docURL = s1 ∨ trimPathSlash A.docURL = s2) :
    let r := numberPrevNext (detectParamInfo A gs arg) s1 s2
    r.2 = "" ∨ (isJs r.2 = false ∧ r.2 ∈ groupURLs gs) := by
  intro r
  rcases (numberPrevNext_src (fun u => u ∈ groupURLs gs ∨ u = s1 ∨ u = s2) A gs arg s1 s2
    (Or.inr h1) (Or.inr h2) fun _ hu => Or.inr (Or.inl hu)).2 with h | ⟨hj, hs | hs | hs, hne1, hne2⟩
  · exact Or.inl h
  · exact Or.inr ⟨hj, hs⟩
  · exact absurd hs hne1
  · exact absurd hs hne2

/-- **Prev/next algorithm.**  The result is empty or the href of an unbanned candidate with
score ≥ 50. -/
theorem prevnext_is_candidate (banned : List String) (cs : List Cand) :
    prevNextResult banned cs = "" ∨
    ∃ c ∈ cs, c.href = prevNextResult banned cs ∧ c.score ≥ 50 ∧ c.href ∉ banned :=
  Pg.prevnext_is_candidate banned cs

/-- … and no eligible candidate scored higher -/
theorem prevnext_max (banned : List String) (cs : List Cand) (c' : Cand)
    (hm : c' ∈ cs) (hb : c'.href ∉ banned) (hs : c'.score ≥ 50) :
    ∃ c ∈ cs, c.href = prevNextResult banned cs ∧ c'.score ≤ c.score :=
  Pg.prevnext_max banned cs c' hm hb hs

/-- every candidate passed the allowed-prefix test (that is how it became a candidate), so
the result did -/
theorem prevnext_allowed (allowed : String → Prop) (banned : List String) (cs : List Cand)
    (h : ∀ c ∈ cs, allowed c.href) :
    prevNextResult banned cs = "" ∨ allowed (prevNextResult banned cs) := by
  rcases prevnext_is_candidate banned cs with h0 | ⟨c, hc, he, _, _⟩
  · exact Or.inl h0
  · exact Or.inr (he ▸ h c hc)

/-- **The groups the detection reads.**  Whatever sequence of AddGroup / AddPageInfo calls the
DOM scan makes (CleanUp last), every group it leaves is non-empty and strictly monotonic in
the direction it records (a single entry records none) — the shape `DetectParamInfo` relies
on when it reverses descending groups and indexes the ascending numbers. -/
theorem scan_groups_ok (ops : List GOp) (h : NoCleanUp ops) :
    ∀ g ∈ (runOps (ops ++ [GOp.cleanUp])).groups, GroupOk g ∧ g.list ≠ [] :=
  Pg.scan_groups_ok ops h

/-- … and while it is being built, the remembered previous entry is the last entry of the
group being filled, so `AddPageInfo`'s read of `prevPageInfo` is never a nil dereference -/
theorem scan_prev_never_nil (ops : List GOp) (h : NoCleanUp ops) : Inv (runOps ops) :=
  Pg.runOps_inv ops h

example : (runOps [.addGroup, .add ⟨3, "a"⟩, .add ⟨2, ""⟩, .add ⟨2, "b"⟩, .add ⟨5, "c"⟩, .cleanUp]).groups.map
      (fun g => (g.list, g.deltaSign)) =
    [([⟨3, "a"⟩, ⟨2, ""⟩], -1), ([⟨2, "b"⟩, ⟨5, "c"⟩], 1)] := by decide +kernel

/-- **Tie.**  The scanning half of `PageNumberFinder.FindOutlink` (which hook
`VerifNumberGroups` repeats to show the groups before detection rewrites them) and the two
calls of `PrevNextFinder.FindPagination`, as they stand. -/
theorem scan_tie :
    Gen.numberFindOutlinkBody = Gen.numberFindOutlinkBodyExpected ∧
    Gen.prevNextFindPaginationBody = Gen.prevNextFindPaginationBodyExpected :=
  ⟨rfl, rfl⟩

/-! non-vacuity: a pager `[1] 2 [3] [4]` on page 2 -/
def exURL (i : Nat) : String := "http://e.com/a?page=" ++ toString i
def exKey : String := "http://e.com/a?page=[*!]"
def exAtoms : Atoms :=
  { urls := [1, 3, 4].map (fun i => { url := exURL i, parses := true,
                                       query := [{ key := exKey, value := i, validFor := true }], path := [] }),
    isPaging := fun _ _ => true, docURL := exURL 2, docParses := true }
def exGroups : List PGroup :=
  [{ list := [⟨1, exURL 1⟩, ⟨2, ""⟩, ⟨3, exURL 3⟩, ⟨4, exURL 4⟩], deltaSign := 1 }]

example : numberPrevNext (detectParamInfo exAtoms exGroups (exURL 2)) (exURL 2) (exURL 2) = (exURL 3, exURL 1) := by
  decide +kernel

example : prevNextResult ["x"] [⟨"x", 90⟩, ⟨"a", 40⟩, ⟨"b", 75⟩, ⟨"c", 75⟩] = "b" := by decide +kernel

end Distill.C16
