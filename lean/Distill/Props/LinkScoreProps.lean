/-
  Property theorems about single anchors, shared by C16 and C17: the prev/next finder's decision about one anchor
  (Model/LinkScore.lean), then what `getPageInfoAndText` reads from one (Model/PageInfo.lean, `pageInfo_eq_some`),
  then where the DOM scan's page infos come from (Model/Scan.lean, `scan_provenance`).
-/
import Distill.Proofs.LinkScore
import Distill.Proofs.Basics
import Distill.Proofs.Pagination
import Distill.Model.PageInfo
import Distill.Proofs.Scan
import Distill.Gen.Funcs
import Distill.Gen.Tables
namespace Distill.LinkScoreProps
open Distill LinkScore

/-- the expressions the model spells out are the ones in the source -/
theorem prevnext_regexps_tie :
    Gen.modelledRegexps.lookup "internal/pagination.rxNextLink" = some "(?i)(next|weiter|continue|>([^\\|]|$)|»([^\\|]|$))" ∧
    Gen.modelledRegexps.lookup "internal/pagination.rxPrevLink" = some "(?i)(prev|early|old|new|<|«)" ∧
    Gen.modelledRegexps.lookup "internal/pagination.rxExtraneous" = some "(?i)print|archive|comment|discuss|e[\\-]?mail|share|reply|all|login|sign|single|as one|article|post|篇" ∧
    Gen.modelledRegexps.lookup "internal/pagination.rxPagination" = some "(?i)pag(e|ing|inat)" ∧
    Gen.modelledRegexps.lookup "internal/pagination.rxLinkPagination" = some "(?i)p(a|g|ag)?(e|ing|ination)?(=|\\/)[0-9]{1,2}$" ∧
    Gen.modelledRegexps.lookup "internal/pagination.rxFirstLast" = some "(?i)(first|last)" ∧
    Gen.modelledRegexps.lookup "internal/pagination.rxNumberAtStart" = some "^\\d+" ∧
    Gen.modelledRegexps.lookup "internal/pagination.rxNumber" = some "\\d" := by
  simp only [Gen.modelledRegexps, lookup_cons_ne, List.lookup_cons_self, ne_eq, String.reduceEq, not_false_eq_true,
    and_self]

/-- the two plain word lists are read from the patterns -/
theorem prevnext_word_lists_read :
    Cand.altWords (Cand.patternOf "internal/pagination.rxPositive") = some positiveWords ∧
    Cand.altWords (Cand.patternOf "internal/pagination.rxNegative") = some negativeWords := by
  constructor <;>
  · rw [Cand.patternOf]
    simp only [Gen.modelledRegexps, lookup_cons_ne, List.lookup_cons_self, ne_eq, String.reduceEq,
      not_false_eq_true]
    -- to the kernel `"ab"` is `String.ofList ['a', 'b']`: unfolded at that form, `toList` is read off by
    -- `String.toList_ofList`; evaluating it would decode UTF-8 in quadratic time
    rw [Option.getD_some, Cand.altWords.eq_1 (String.ofList _), String.toList_ofList]
    simp only [positiveWords, negativeWords, w]
    repeat rw [String.toList_ofList]
    decide +kernel

/-- `FindOutlink`, `getPageDiff` and the two case-insensitive string helpers as they stand -/
theorem prevnext_bodies_tie : Gen.prevNextBodies = Gen.prevNextBodiesExpected := by rfl

/-- **The score of an anchor that raises no text-driven adjustment** is the contribution of its
surroundings and URL shape, plus 50 for the label of the direction, plus the number bonus, plus 25 for
pointing exactly one page on (back). -/
theorem score_of_quiet_anchor (next : Bool) (F : Facts) (hp : passes next F = true) (hq : quiet next F = true) :
    verdict next F = .cand (ctx F + (if own next (dataOf F) then 50 else 0) + numBonus next F.text.toList + diffBonus next F) := by
  refine (verdict_cand_iff next F _).2 ⟨hp, ?_⟩
  simp only [quiet, Bool.and_eq_true, Bool.not_eq_eq_eq_not, Bool.not_true, and_assoc] at hq
  obtain ⟨q1, q2, q3, q4, q5, q6⟩ := hq
  have q6' : ¬ F.text.utf8ByteSize > 10 := by simpa using q6
  unfold score ctx
  simp only [q1, q2, q3, q4, q5, if_neg q6', Bool.false_eq_true, ↓reduceIte]
  omega

/-- **A labelled anchor to the neighbouring page beats every numbered anchor of its pager**, by at
least 41 points, and reaches the threshold of 50 when it lies below the folder URL — whatever the
surroundings and the URL family contribute, as long as they contribute the same to both. -/
theorem labelled_anchor_wins (next : Bool) (A B : Facts)
    (hpA : passes next A = true) (hqA : quiet next A = true)
    (hpB : passes next B = true) (hqB : quiet next B = true)
    (hctx : ctx A = ctx B)
    (hA : own next (dataOf A) = true) (hAn : numBonus next A.text.toList = 0) (hAd : diffBonus next A = 25)
    (hB : own next (dataOf B) = false) :
    ∃ sa sb, verdict next A = .cand sa ∧ verdict next B = .cand sb ∧ sa ≥ sb + 41 ∧ (A.inFolder = true → sa ≥ 50) := by
  refine ⟨_, _, score_of_quiet_anchor next A hpA hqA, score_of_quiet_anchor next B hpB hqB, ?_, ?_⟩
  · -- A: 50 for the label, 0, 25 for the page difference; B: no label, at most 9 and 25; 75 − 34 = 41
    have := numBonus_le next B.text.toList
    have := diffBonus_le next B
    simp only [hA, hB, hAn, hAd, hctx, ↓reduceIte, Bool.false_eq_true]
    omega
  · -- below the folder URL the surroundings take at most 25 away: 75 − 25 = 50
    intro hin
    have := ctx_ge A hin
    simp only [hA, hAn, hAd, ↓reduceIte]
    omega

/-- `getPageDiff` slices both strings at `commonLen`, which never exceeds either length: the two slice
expressions of the function are in range for every pair of strings and every `skip` -/
theorem page_diff_slices_in_range (a b : List UInt8) (skip : Nat) :
    commonLen a b skip ≤ a.length ∧ commonLen a b skip ≤ b.length := by
  unfold commonLen
  simp only []
  split
  · rename_i i hi
    have := List.mem_of_find?_eq_some hi
    simp only [List.mem_range] at this
    omega
  · omega

/-- **What the prev/next finder returns, from the facts about the anchors**: the empty string, or the
cleaned href of an anchor of the page that could be made absolute, starts with the page's
scheme://host/ prefix (compared case-insensitively), is not the page itself, is not banned, and
scored at least 50 — for every list of anchors. -/
theorem find_outlink_provenance (next : Bool) (Fs : List Facts) :
    findOutlink next Fs = "" ∨
    ∃ F ∈ Fs, F.href = findOutlink next Fs ∧ F.absOK = true ∧ F.hasPrefix = true ∧ F.cleanOK = true ∧
      F.eqCurrent = false ∧ ∃ sc, verdict next F = .cand sc ∧ sc ≥ 50 := by
  rw [findOutlink_eq]
  rcases Pg.prevnext_is_candidate (bannedOf next Fs) (candsOf next Fs) with h | ⟨c, hc, he, hs, _⟩
  · exact Or.inl h
  · obtain ⟨F, hF, hv, hh⟩ := mem_candsOf.1 hc
    have hp := ((verdict_cand_iff next F _).1 hv).1
    simp only [passes, Bool.and_eq_true, Bool.not_eq_eq_eq_not, Bool.not_true, Bool.or_eq_false_iff, and_assoc] at hp
    obtain ⟨habs, hpre, _, hclean, hcur, _⟩ := hp
    exact Or.inr ⟨F, hF, hh.trans he, habs, hpre, hclean, hcur, _, hv, hs⟩

/-- **… and it is the best one**: no anchor that became a candidate with at least 50 points and whose
URL is not banned scored higher than the anchor the finder returns. -/
theorem find_outlink_is_best (next : Bool) (Fs : List Facts) (F : Facts) (sc : Int) (hF : F ∈ Fs)
    (hv : verdict next F = .cand sc) (hs : sc ≥ 50)
    (hnb : ∀ G ∈ Fs, verdict next G = .banned → G.href ≠ F.href) :
    ∃ G ∈ Fs, G.href = findOutlink next Fs ∧ ∃ sg, verdict next G = .cand sg ∧ sc ≤ sg := by
  rw [findOutlink_eq]
  obtain ⟨c, hc, he, hle⟩ := Pg.prevnext_max (bannedOf next Fs) (candsOf next Fs) ⟨F.href, sc⟩
    (mem_candsOf.2 ⟨F, hF, hv, rfl⟩)
    (fun hb => by obtain ⟨G, hG, hg, e⟩ := mem_bannedOf.1 hb; exact hnb G hG hg e) hs
  obtain ⟨G, hG, hgv, hh⟩ := mem_candsOf.1 hc
  exact ⟨G, hG, hh.trans he, _, hgv, hle⟩

/-! ### page-number links (`getPageInfoAndText`) -/

/-- `getPageInfoAndText` and the walk over the neighbouring leaves as they stand -/
theorem page_number_bodies_tie : Gen.pageNumberBodies = Gen.pageNumberBodiesExpected := by rfl

theorem pageInfo_eq_some (text : String) (h : PageInfo.H) (n : Int) (u : String) :
    PageInfo.pageInfo text h = some (n, u) ↔
      Pg.linkTextToNumber text.toList = some n ∧ 0 ≤ n ∧ n ≤ 100 ∧
      if h.resolved = "" ∨ PageInfo.isJs h.resolved = true then u = h.resolved
      else h.requestOK = true ∧ h.sameHost = true ∧ h.parseOK = true ∧ u = h.cleaned := by
  unfold PageInfo.pageInfo PageInfo.maxNumForPageParam
  cases Pg.linkTextToNumber text.toList with
  | none => simp
  | some m =>
    -- each `if … then none else …` becomes a conjunct; what is left to say is that `m`, the number read, is `n`
    by_cases hr : h.resolved = "" ∨ PageInfo.isJs h.resolved = true <;>
      simp only [hr, gt_iff_lt, Bool.or_eq_true, decide_eq_true_eq, beq_iff_eq, ↓reduceIte, Bool.not_eq_eq_eq_not,
        Bool.not_true, Option.ite_none_left_eq_some, not_or, Int.not_lt, Bool.not_eq_false, Option.some.injEq,
        Prod.mk.injEq, eq_comm (a := u)]
    · constructor
      · rintro ⟨⟨h0, h1⟩, rfl, e⟩; exact ⟨rfl, h0, h1, e⟩
      · rintro ⟨rfl, h0, h1, e⟩; exact ⟨⟨h0, h1⟩, rfl, e⟩
    · constructor
      · rintro ⟨⟨h0, h1⟩, ⟨a, b⟩, c, rfl, e⟩; exact ⟨rfl, h0, h1, a, b, c, e⟩
      · rintro ⟨rfl, h0, h1, a, b, c, e⟩; exact ⟨⟨h0, h1⟩, ⟨a, b⟩, c, rfl, e⟩

/-- **A page-number link is a position holder or a same-host URL**: whatever the anchor, the page info
the finder records has a number between 0 and 100 and its URL is either the empty / `javascript:`
href itself or the cleaned form of an href that parses and whose host is the page's host. -/
theorem page_info_provenance (text : String) (h : PageInfo.H) (n : Int) (u : String)
    (hp : PageInfo.pageInfo text h = some (n, u)) :
    0 ≤ n ∧ n ≤ 100 ∧
    ((u = h.resolved ∧ (h.resolved = "" ∨ PageInfo.isJs h.resolved = true)) ∨
     (u = h.cleaned ∧ h.requestOK = true ∧ h.sameHost = true ∧ h.parseOK = true)) := by
  obtain ⟨_, h0, h100, hu⟩ := (pageInfo_eq_some text h n u).1 hp
  refine ⟨h0, h100, ?_⟩
  split at hu
  · exact Or.inl ⟨hu, ‹_›⟩
  · exact Or.inr ⟨hu.2.2.2, hu.1, hu.2.1, hu.2.2.1⟩

/-- a link to another host is never a page-number link -/
theorem other_host_is_no_page_link (text : String) (h : PageInfo.H) (hne : h.resolved ≠ "")
    (hjs : PageInfo.isJs h.resolved = false) (hh : h.sameHost = false) : PageInfo.pageInfo text h = none := by
  refine Option.eq_none_iff_forall_ne_some.2 fun ⟨n, u⟩ hp => ?_
  have := ((pageInfo_eq_some text h n u).1 hp).2.2.2
  simp [hne, hjs, hh] at this

example : PageInfo.pageInfo "[3]" ⟨"http://e.com/a?page=3#x", true, true, true, "http://e.com/a?page=3"⟩ = some (3, "http://e.com/a?page=3") := by
  decide +kernel
example : PageInfo.pageInfo "101" ⟨"http://e.com/a?page=101", true, true, true, "http://e.com/a?page=101"⟩ = none := by decide +kernel

/-! ### the DOM scan of the page-number algorithm (`Model/Scan.lean`) -/

/-- **Provenance through the DOM scan**: whatever the tree, every page info the scan hands to the
groups of adjacent numbers is the page info `getPageInfoAndText` gives for one of its anchors, or a
plain number without URL read from a text node.  (With `page_info_provenance` and the provenance
theorem of the detection, a NextPage / PrevPage of the page-number algorithm is the cleaned href of an
anchor on the page's host.) -/
theorem scan_provenance (A : Scan.A) (root : Node) (ops : List Pg.GOp) (h : Scan.scanOps A root = some ops) :
    ∀ o ∈ ops, Scan.OkOp A o := Scan.scanOps_provenance A root ops h

/-- non-vacuity: `<div><a>1</a> <b>2</b> <a>3</a></div>` with page infos for the two anchors -/
def exAtoms : Scan.A where
  pageInfo := fun i => if i == 1 then some (1, "u1") else if i == 6 then some (3, "u3") else none
  noWords := fun i => i == 3 || i == 5
def exTree : Node :=
  .elem 0 "div" [] [.elem 1 "a" [] [.text 2 "1"], .text 3 " ", .elem 4 "b" [] [.text 7 "2"], .text 5 " ", .elem 6 "a" [] [.text 8 "3"]]
example : (Scan.scanGroups exAtoms exTree).map (·.map fun g => (g.deltaSign, g.list.map fun p => (p.num, p.url))) =
    some [(1, [(1, "u1"), (2, ""), (3, "u3")])] := by decide +kernel

/-! non-vacuity: page 2 of `http://e.com/a?page=N` with anchors `Next` → page 3 and `4` → page 4
inside `<div class="pagination">` -/
def exNext : Facts := ⟨true, true, true, true, "http://e.com/a?page=3", false, false, true, "/a?page=3", "Next", "", "",
  [("pagination", ""), ("", ""), ("", "")], "http://e.com/a?page=2", 13⟩
def exFour : Facts := ⟨true, true, true, true, "http://e.com/a?page=4", false, false, true, "/a?page=4", "4", "", "",
  [("pagination", ""), ("", ""), ("", "")], "http://e.com/a?page=2", 13⟩

example : passes true exNext = true ∧ quiet true exNext = true ∧ passes true exFour = true ∧ quiet true exFour = true ∧
    ctx exNext = ctx exFour ∧ own true (dataOf exNext) = true ∧ numBonus true exNext.text.toList = 0 ∧
    diffBonus true exNext = 25 ∧ own true (dataOf exFour) = false := by decide +kernel
example : verdict true exNext = .cand 125 ∧ verdict true exFour = .cand 56 := by decide +kernel
example : verdict false exNext = .cand (-150) := by decide +kernel
example : pageDiff "http://e.com/a?page=2".toUTF8.toList "http://e.com/a?page=3".toUTF8.toList 13 = some 1 := by decide +kernel

/-- the whole finder on that pager: links `1`, `3`, `4` and `Next` → page 3 seen from page 2 -/
def exOne : Facts := ⟨true, true, true, true, "http://e.com/a?page=1", false, false, true, "/a?page=1", "1", "", "",
  [("pagination", ""), ("", ""), ("", "")], "http://e.com/a?page=2", 13⟩
def exThree : Facts := ⟨true, true, true, true, "http://e.com/a?page=3", false, false, true, "/a?page=3", "3", "", "",
  [("pagination", ""), ("", ""), ("", "")], "http://e.com/a?page=2", 13⟩
example : findOutlink true [exOne, exThree, exFour, exNext] = "http://e.com/a?page=3" ∧
    findOutlink false [exOne, exThree, exFour, exNext] = "http://e.com/a?page=1" := by decide +kernel

end Distill.LinkScoreProps
