/-
  C13 — Options do only what they say.
-/
import Distill.Model.Apply
import Distill.Gen.Inventory
import Distill.Proofs.Basics
namespace Distill.C13
open Distill

/-- the Options value is used in `Apply` exactly here (source order): the log flags go into
the logger and nowhere else; the URL goes to the extractor, to `Result.URL` and to the
pagination finders; the two pagination switches guard only the pagination block -/
theorem opts_uses_tie : Gen.applyOptsUses =
    ["LogFlags | logger := newDistillerLogger(opts.LogFlags)",
     "OriginalURL | ce := extractor.NewContentExtractor(doc, opts.OriginalURL, logger)",
     "OriginalURL | if opts.OriginalURL != nil",
     "OriginalURL | result.URL = opts.OriginalURL.String()",
     "SkipPagination | if !opts.SkipPagination && opts.OriginalURL != nil",
     "OriginalURL | if !opts.SkipPagination && opts.OriginalURL != nil",
     "PaginationAlgo | if opts.PaginationAlgo == PageNumber",
     "OriginalURL | result.PaginationInfo = finder.FindPagination(doc, opts.OriginalURL)",
     "OriginalURL | result.PaginationInfo = finder.FindPagination(doc, opts.OriginalURL)"] := by rfl

/-- every result field other than URL / PaginationInfo / TimingInfo is assigned once, from
the extractor, before the pagination block -/
theorem result_fields_tie : Gen.applyResultFields =
    ["Node | container", "Text | extractedText", "WordCount | wordCount", "Title | ce.ExtractTitle()",
     "ContentImages | ce.ImageURLs", "MarkupInfo | ce.Parser.MarkupInfo()",
     "URL | opts.OriginalURL.String()",
     "PaginationInfo | finder.FindPagination(doc, opts.OriginalURL)",
     "PaginationInfo | finder.FindPagination(doc, opts.OriginalURL)",
     "TimingInfo | *timingInfo"] := by rfl

/-- every use of the logger in the library is a statement whose value is discarded, a test
that guards only such statements, or the table classifier's log-and-return wrapper -/
theorem logger_sites_tie : Gen.loggerSites = Gen.loggerSitesExpected := by rfl

variable {Core : Type}

theorem applyModel_eq (core : Option String → Core) (pn pv) (o : Opts) :
    applyModel core pn pv o = some
      { core := core o.url, url := o.url.getD "",
        pag := if o.skip = true ∨ o.url = none then ("", "") else if o.algo = 1 then pn o.url else pv o.url } := by
  obtain ⟨lf, url, skip, algo⟩ := o
  cases url <;> cases skip <;> by_cases ha : algo = 1 <;> simp [applyModel, Gen.applyTail, optAtoms, ha]

/-- **Log flags change nothing in the result.** -/
theorem log_irrelevant (core : Option String → Core) (pn pv) (o : Opts) (f : Nat) :
    applyModel core pn pv { o with logFlags := f } = applyModel core pn pv o := by
  rfl

/-- **The pagination switches affect only PaginationInfo.** -/
theorem pagination_only (core : Option String → Core) (pn pv) (o : Opts) (skip' : Bool) (algo' : Nat)
    (r r' : AResult Core)
    (h : applyModel core pn pv o = some r)
    (h' : applyModel core pn pv { o with skip := skip', algo := algo' } = some r') :
    r'.core = r.core ∧ r'.url = r.url := by
  rw [applyModel_eq] at h h'
  cases h; cases h'; exact ⟨rfl, rfl⟩

/-- **PaginationInfo is empty whenever pagination is skipped or no page URL is given.** -/
theorem pagination_empty (core : Option String → Core) (pn pv) (o : Opts) (r : AResult Core)
    (h : applyModel core pn pv o = some r) (hs : o.skip = true ∨ o.url = none) :
    r.pag = ("", "") := by
  rw [applyModel_eq] at h
  cases h; exact if_pos hs

/-- otherwise it is the answer of the selected finder -/
theorem pagination_dispatch (core : Option String → Core) (pn pv) (o : Opts) (u : String) (r : AResult Core)
    (h : applyModel core pn pv o = some r) (hs : o.skip = false) (hu : o.url = some u) :
    r.pag = if o.algo = 1 then pn (some u) else pv (some u) := by
  rw [applyModel_eq] at h
  cases h; simp [hs, hu]

/-- **Result.URL is the supplied page URL (empty if none).** -/
theorem url_field (core : Option String → Core) (pn pv) (o : Opts) (r : AResult Core)
    (h : applyModel core pn pv o = some r) : r.url = o.url.getD "" := by
  rw [applyModel_eq] at h
  cases h; rfl

/-- the model is total on the current source (the tail translated) -/
theorem apply_total (core : Option String → Core) (pn pv) (o : Opts) :
    (applyModel core pn pv o).isSome = true := by
  rw [applyModel_eq]; rfl

/-- `ApplyForURL`, `ApplyForFile`, `ApplyForReader` are the statements the model follows: parse /
open / fetch, then delegate; `ApplyForURL` puts the *parsed argument* into a copy of the options -/
theorem entry_points_tie : Gen.entryPointBodies = Gen.entryPointBodiesExpected := by rfl

theorem url_entry_point_shape :
    (Gen.entryPointBodiesExpected.lookup "..ApplyForURL").map (fun l => l.drop 8) =
      some ["urlOpts := Options{}", "if opts != nil { urlOpts = *opts }", "urlOpts.OriginalURL = parsedURL",
            "return ApplyForReader(resp.Body, &urlOpts)"] ∧
    (Gen.entryPointBodiesExpected.lookup "..ApplyForURL").map (fun l => l.take 1) =
      some ["parsedURL, err := nurl.ParseRequestURI(url)"] ∧
    Gen.entryPointBodiesExpected.lookup "..ApplyForReader" =
      some ["doc, err := dom.Parse(r)", "if err != nil { return nil, err }", "return Apply(doc, opts)"] ∧
    (Gen.entryPointBodiesExpected.lookup "..ApplyForFile").map (fun l => l.drop 3) = some ["return ApplyForReader(f, opts)"] := by
  simp only [Gen.entryPointBodiesExpected, lookup_cons_ne, List.lookup_cons_self, ne_eq, String.reduceEq,
    not_false_eq_true, Option.map_some, List.drop_succ_cons, List.drop_zero, List.take_succ_cons, List.take_zero, and_self]

/-- **With `ApplyForURL`, Result.URL is the address the caller supplied** — whatever the caller's
Options say and wherever the server redirects to. -/
theorem url_entry_point_url (core : Option String → Core) (pn pv) (url : String) (o : Opts) (r : AResult Core)
    (h : applyForURLModel core pn pv url o = some r) : r.url = url := by
  have := url_field core pn pv { o with url := some url } r h
  simpa using this

/-! ### non-vacuity -/
example : (applyModel (fun _ => ()) (fun _ => ("n", "p")) (fun _ => ("N", "P"))
            { url := some "http://e/", algo := 1 }).map (fun r => (r.url, r.pag)) = some ("http://e/", ("n", "p")) := by decide +kernel
example : (applyModel (fun _ => ()) (fun _ => ("n", "p")) (fun _ => ("N", "P"))
            { url := some "http://e/", skip := true }).map (fun r => (r.url, r.pag)) = some ("http://e/", ("", "")) := by decide +kernel

end Distill.C13
