/-
  Reference resolution: `stringutil.CreateAbsoluteURL` (Model/AbsURL.lean), shared by C06 (every
  output URL) and C16 (every paging link).
-/
import Distill.Model.AbsURL
import Distill.Gen.Funcs
import Distill.Proofs.Basics
namespace Distill.AbsURLProps
open Distill AbsURL

/-- the function the model follows is the one in the source (regenerated statement list): no state,
no memo — the answer is a function of (url, base) -/
theorem create_abs_tie : Gen.urlBodies = Gen.urlBodiesExpected := by rfl

theorem create_eq (url : String) (u : U) : create url u = if passThrough url u then url else u.resolved := by
  simp only [create, passThrough, ite_or_same, Bool.or_eq_true, or_assoc]

/-- **Pass-through**: the empty reference, fragment-only, data: and javascript: references,
references that are absolute already and references net/url cannot parse come back unchanged. -/
theorem pass_through_unchanged (url : String) (u : U) (h : passThrough url u = true) : create url u = url := by
  rw [create_eq, if_pos h]

/-- **Everything else is resolved against the base** -/
theorem otherwise_resolved (url : String) (u : U) (h : passThrough url u = false) : create url u = u.resolved := by
  rw [create_eq, h]; rfl

/-- the answer is one of the two: the reference itself, or its resolution -/
theorem create_cases (url : String) (u : U) : create url u = url ∨ create url u = u.resolved := by
  rw [create_eq]; split <;> simp

example : create "#top" ⟨false, true, "http://e/p#top"⟩ = "#top" := by decide +kernel
example : create "?page=3" ⟨false, true, "http://e/news/a?page=3"⟩ = "http://e/news/a?page=3" := by decide +kernel
example : create "%zz" ⟨false, false, ""⟩ = "%zz" := by decide +kernel
example : passThrough "?page=3" ⟨false, true, "x"⟩ = false := by decide +kernel

end Distill.AbsURLProps
