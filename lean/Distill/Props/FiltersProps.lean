/-
  Property theorems about the article extractor (the fourteen text-block filters), shared by
  C01, C02, C03, C09 and C15.  The model is `Model/Filters.lean`; it is executed against the real
  `ArticleExtractor.Extract` after every stage on every generated page (stage `filters`).
-/
import Distill.Proofs.Filters
import Distill.Gen.Funcs
namespace Distill.FltProps
open Distill.Flt

/-- `ArticleExtractor.Extract` always returns, and what it returns is made of the initial blocks —
and of the blocks as the two labelling filters leave them (its first two filters) -/
theorem extract_made (A : Atoms) (init : List TB) (hA : init.length ≤ A.length) :
    Ok (extract A init) (fun final => Made init final ∧ Made (titleMatch A (terminating A init).1).1 final) := by
  have h2 : Made init (titleMatch A (terminating A init).1).1 := (terminating_made A init).trans (titleMatch_made A _)
  rw [extract, articleFilters, run_cons_some (r := terminating A init) rfl, run_cons_some (r := titleMatch A _) rfl]
  exact (run_made A _ _ (Nat.le_trans h2.2 hA)).mono fun _ h => ⟨h2.trans h, h⟩

/-- **C01 — the article extractor is total.**  For every list of initial blocks and every DOM
answer per block, no filter fails: in particular none of the index expressions of
`SimilarSiblingContent.Process` (`good[goodEnd]`, `bad[j]`, `bad[badBegin]`, `textBlocks[b]`,
`canonicalReps[i]`, …), which the model keeps partial, is ever out of range. -/
theorem filters_total (A : Atoms) (init : List TB) (hA : A.length = init.length) :
    (extract A init).isSome = true := by
  obtain ⟨final, h, _⟩ := extract_made A init (Nat.le_of_eq hA.symm)
  rw [h]; rfl

/-- **C02 — the filters neither duplicate nor invent a Text element.**  If the initial blocks
hold every Text element at most once, the Text elements flagged content by `ApplyToModel` are
distinct, and each of them belongs to an initial block. -/
theorem filters_no_duplication (A : Atoms) (init final : List TB) (hA : A.length = init.length)
    (h : extract A init = some final) (hn : (allMembers init).Nodup) :
    (contentMembers final).Nodup ∧ ∀ i ∈ contentMembers final, i ∈ allMembers init := by
  have hcnt : ∀ x, (contentMembers final).count x ≤ (allMembers init).count x :=
    (((extract_made A init (Nat.le_of_eq hA.symm)).of_eq h).1.trans (.sublist List.filter_sublist)).cnt_le
  refine ⟨List.nodup_iff_count.mpr (fun x => Nat.le_trans (hcnt x) (List.nodup_iff_count.mp hn x)), fun i hi => ?_⟩
  exact List.count_pos_iff.mp (Nat.lt_of_lt_of_le (List.count_pos_iff.mpr hi) (hcnt i))

theorem mem_contentMembers {l : List TB} {i : Nat} :
    i ∈ contentMembers l ↔ ∃ f ∈ l, f.content = true ∧ i ∈ f.members := by
  simp [contentMembers, and_assoc]

theorem mem_titleMembers {l : List TB} {i : Nat} :
    i ∈ titleMembers l ↔ ∃ f ∈ l, (f.content && f.labels.title) = true ∧ i ∈ f.members := by
  simp [titleMembers, and_assoc]

/-- **C03 — the filters treat an initial block as a whole.**  Whatever the fourteen filters do
(flag, merge — also across a block that stays, as BlockProximityFusion can —, drop), two Text
elements of one initial block end up with the same content flag and the same TITLE label. -/
theorem initial_block_all_or_nothing (A : Atoms) (init final : List TB) (hA : A.length = init.length)
    (h : extract A init = some final) (hn : (allMembers init).Nodup)
    (b0 : TB) (hb0 : b0 ∈ init) (i j : Nat) (hi : i ∈ b0.members) (hj : j ∈ b0.members) :
    (i ∈ contentMembers final ↔ j ∈ contentMembers final) ∧
    (i ∈ titleMembers final ↔ j ∈ titleMembers final) := by
  have hw : All (W b0) final := ((extract_made A init (Nat.le_of_eq hA.symm)).of_eq h).1.all (closed_whole b0)
    fun f hf => whole_init init hn f hf b0 hb0
  have key (q : TB → Prop) : (∃ f ∈ final, q f ∧ i ∈ f.members) ↔ ∃ f ∈ final, q f ∧ j ∈ f.members :=
    exists_congr fun f => and_congr_right fun hf => and_congr_right fun _ =>
      ⟨hw f hf i hi j hj, hw f hf j hj i hi⟩
  rw [mem_contentMembers, mem_contentMembers, mem_titleMembers, mem_titleMembers]
  exact ⟨key _, key _⟩

/-- **C09 — WordCount is the number of words of the Text elements flagged content.**  If every
initial block's word count is the sum over its Text elements (`NewTextBlock`), then
`CountWordsInContent` of the final blocks is the sum of `NumWords` over exactly the Text elements
`ApplyToModel` flags. -/
theorem word_count_is_sum (w : Nat → Nat) (A : Atoms) (init final : List TB) (hA : A.length = init.length)
    (h : extract A init = some final) (h0 : All (Wd w) init) :
    countWordsInContent final = ((contentMembers final).map w).sum :=
  countWords_eq w final (((extract_made A init (Nat.le_of_eq hA.symm)).of_eq h).1.all (closed_words w) h0)

theorem mem_terminating {A : Atoms} {l : List TB} {b' : TB} (h : b' ∈ (terminating A l).1) :
    ∃ b ∈ l, b'.members = b.members ∧ b'.first = b.first := by
  obtain ⟨b, hb, rfl⟩ := List.mem_map.mp h
  exact ⟨b, hb, by split <;> rfl, by split <;> rfl⟩

theorem mem_titleMatch {A : Atoms} {l : List TB} {b' : TB} (h : b' ∈ (titleMatch A l).1) :
    ∃ b ∈ l, b'.members = b.members ∧ ((A.at b.first).titleMatch = true → b'.labels.title = true) := by
  obtain ⟨b, hb, rfl⟩ := List.mem_map.mp h
  exact ⟨b, hb, by split <;> rfl, fun ht => by rw [if_pos ht]⟩

/-- **C15 — a block that matches the title keeps the TITLE label through every filter.**  If the
initial block holding Text element `i0` is title-matched (DocumentTitleMatch), then whenever
`i0` is flagged content it is also given TITLE (and `Text.GenerateOutput` emits nothing for it). -/
theorem title_block_labelled (A : Atoms) (init final : List TB) (hA : A.length = init.length)
    (h : extract A init = some final) (i0 : Nat)
    (hm : ∀ f ∈ init, i0 ∈ f.members → (A.at f.first).titleMatch = true)
    (hc : i0 ∈ contentMembers final) : i0 ∈ titleMembers final := by
  have h2 : All (Tl i0) (titleMatch A (terminating A init).1).1 := fun f2 hf2 hi => by
    obtain ⟨f1, hf1, hm1, ht1⟩ := mem_titleMatch hf2
    obtain ⟨f, hf, hm0, h0⟩ := mem_terminating hf1
    exact ht1 (h0 ▸ hm f hf (hm0 ▸ hm1 ▸ hi))
  have hall := ((extract_made A init (Nat.le_of_eq hA.symm)).of_eq h).2.all (closed_title i0) h2
  obtain ⟨f, hf, hcf, hmf⟩ := mem_contentMembers.mp hc
  exact mem_titleMembers.mpr ⟨f, hf, by simp [hcf, hall f hf hmf], hmf⟩

/-- the source text of `ArticleExtractor.Extract`, of every filter's `Process` and helpers, of
`NewTextBlock`, `MergeNext`, `CountWordsInContent`, `ApplyToModel` and `CreateTextDocument`
(regenerated on every run) is the text the model was written against -/
theorem source_tie : Gen.articleExtractorBodies = Gen.articleExtractorBodiesExpected := by rfl

/-! non-vacuity: a concrete run — a heading that matches the title and keeps TITLE, two paragraphs
that stay content, a short link block that is dropped -/
def exInit : List TB :=
  [ { members := [0], numWords := 5, numAnchor := 0, tagLevel := 2, offStart := 0, offEnd := 0, labels := { heading := true, h1 := true }, content := false, first := 0 },
    { members := [1, 2], numWords := 60, numAnchor := 2, tagLevel := 2, offStart := 1, offEnd := 1, labels := {}, content := false, first := 1 },
    { members := [3], numWords := 45, numAnchor := 0, tagLevel := 2, offStart := 2, offEnd := 2, labels := {}, content := false, first := 2 },
    { members := [4], numWords := 3, numAnchor := 3, tagLevel := 3, offStart := 3, offEnd := 3, labels := { li := true }, content := false, first := 3 } ]
def exAtoms : Atoms :=
  [ { repParent := 1, repKind := "e:h1", gpFirst := 1, gpLast := 1, titleMatch := true },
    { repParent := 1, repKind := "e:p", gpFirst := 1, gpLast := 1 },
    { repParent := 1, repKind := "e:p", gpFirst := 1, gpLast := 1 },
    { repParent := 2, repKind := "e:li", gpFirst := 3, gpLast := 3 } ]

example : (extract exAtoms exInit).map (fun l => l.map (fun b => (b.members, b.content, b.labels.title))) =
    some [([0], true, true), ([1, 2], true, false), ([3], true, false)] := by decide +kernel
example : exAtoms.length = exInit.length ∧ (allMembers exInit).Nodup := by decide +kernel

end Distill.FltProps
