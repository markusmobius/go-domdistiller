/-
  C19 — Third-party frames survive only for allow-listed services, with the right id.
-/
import Distill.Props.RenderProps  -- among this property's obligations (lean/obligations.json)
import Distill.Model.Embed
import Distill.Gen.Tables
namespace Distill.C19
open Distill

/-- **Root-domain test** (about the expression regenerated from `domutil.HasRootDomain`):
it is true exactly when URL and root are non-empty, the URL parses, and the parsed host is
the root or ends with "." ++ root. -/
theorem root_match_spec (u : RootDomainAtoms) :
    Gen.hasRootDomain u =
      some (!u.urlEmpty && !u.rootEmpty && !u.parseErr && rootMatchSpec u.host u.root) := by
  simp only [Gen.hasRootDomain, rootMatchSpec]
  cases u.urlEmpty <;> cases u.rootEmpty <;> cases u.parseErr <;> simp

/-- **Accepted hosts, characterised for all strings**: the root-domain test accepts a host
exactly when the host is the root preceded by nothing, or by labels that end in a dot.  Every
look-alike family is an instance of the right-to-left failure: a host that goes on after the
service name (`youtube.com.evil.example`), one that glues something in front of it
(`notyoutube.com`), one that only contains it. -/
theorem accepted_host_iff (host root : String) :
    rootMatchSpec host root = true ↔
      ∃ sub : List Char, host.toList = sub ++ root.toList ∧ (sub = [] ∨ sub.getLast? = some '.') := by
  unfold rootMatchSpec strHasSuffix
  rw [Bool.or_eq_true, beq_iff_eq, List.isSuffixOf_iff_suffix, ← String.toList_inj]
  simp only [String.toList_append, List.getLast?_eq_some_iff]
  constructor
  · rintro (h | ⟨t, ht⟩)
    · exact ⟨[], by simp [h], Or.inl rfl⟩
    · exact ⟨t ++ ['.'], by simp [← ht], Or.inr ⟨t, rfl⟩⟩
  · rintro ⟨_, hs, rfl | ⟨t, rfl⟩⟩
    · exact Or.inl (by simpa using hs)
    · exact Or.inr ⟨t, by simp [hs]⟩

/-- a host that merely *ends* with the service name (prefix look-alike, e.g. `evil-youtube.com`,
`notyoutube.com`) is not the root, and is not a sub-domain of it unless the character before the name
is a dot -/
theorem prefix_lookalike_rejected (pre root : String) (hne : pre.toList ≠ [])
    (hlast : pre.toList.getLast? ≠ some '.') :
    rootMatchSpec (pre ++ root) root = false := by
  rw [Bool.eq_false_iff]
  intro h
  obtain ⟨sub, hs, hsub⟩ := (accepted_host_iff _ _).mp h
  obtain rfl : pre.toList = sub := by simpa using hs
  exact hsub.elim hne hlast

/-- the list-level reading: something glued in front of the name makes no sub-domain unless it ends in a dot -/
theorem prefix_lookalike_not_suffix (pre r : List Char) (hlast : pre.getLast? ≠ some '.') :
    ¬ ('.' :: r) <:+ (pre ++ r) := by
  rintro ⟨t, ht⟩
  obtain rfl : t ++ ['.'] = pre := List.append_cancel_right (by simpa using ht)
  simp at hlast

/-- in particular an accepted host *ends* with the service name: a host that continues after it
(`youtube.com.evil.example`) is rejected, whatever the rest is -/
theorem accepted_host_ends_with_root (host root : String)
    (h : rootMatchSpec host root = true) : root.toList <:+ host.toList := by
  obtain ⟨sub, hs, _⟩ := (accepted_host_iff host root).mp h
  exact ⟨sub, hs.symm⟩

theorem suffix_lookalike_rejected (host root : String)
    (h : ¬ root.toList <:+ host.toList) : rootMatchSpec host root = false := by
  rw [Bool.eq_false_iff]
  intro ht
  exact h (accepted_host_ends_with_root host root ht)

example : ¬ "youtube.com".toList <:+ "youtube.com.evil.example".toList := by decide +kernel
example : rootMatchSpec "www.youtube.com" "youtube.com" = true := by decide +kernel   -- the accepting side is inhabited
example : rootMatchSpec "youtube.com.evil.example" "youtube.com" = false :=
  suffix_lookalike_rejected _ _ (by decide +kernel)

/-! concrete look-alikes and tricks, decided by the kernel on the generated expression -/
section
def hostAtoms (host root : String) : RootDomainAtoms :=
  { urlEmpty := false, rootEmpty := false, parseErr := false, host := host, root := root }
example : Gen.hasRootDomain (hostAtoms "youtube.com" "youtube.com") = some true := by decide +kernel
example : Gen.hasRootDomain (hostAtoms "www.youtube.com" "youtube.com") = some true := by decide +kernel
example : Gen.hasRootDomain (hostAtoms "youtube.com.evil.example" "youtube.com") = some false := by decide +kernel
example : Gen.hasRootDomain (hostAtoms "evil-youtube.com" "youtube.com") = some false := by decide +kernel
example : Gen.hasRootDomain (hostAtoms "notplayer.vimeo.com" "player.vimeo.com") = some false := by decide +kernel
example : Gen.hasRootDomain (hostAtoms "evil.example" "twitter.com") = some false := by decide +kernel
example : Gen.hasRootDomain (hostAtoms "twitter.com:80" "twitter.com") = some false := by decide +kernel
end

/-! what each extractor's answer says about the element (the generated decision lists, each read once: an
answer means that every guard of the chain `if g then none else …` was passed) -/

theorem youtube_some {a : EmbedAtoms} {ty id : String} (h : unwrapGen (Gen.youtubeExtract a) = some (ty, id)) :
    ty = "youtube" ∧ (a.tag = "iframe" ∨ a.tag = "object") ∧
      (a.ytRoot "youtube.com" = true ∨ a.ytRoot "youtube-nocookie.com" = true) ∧ id = a.ytId ∧ id ≠ "" := by
  simp [Gen.youtubeExtract, unwrapGen, Option.ite_none_left_eq_some, Gen.relevantYouTubeTags] at h
  obtain ⟨_, ht, hr, hid, rfl, rfl⟩ := h
  exact ⟨rfl, Decidable.or_iff_not_imp_left.mpr ht, by simpa [Decidable.or_iff_not_imp_left] using hr, rfl, hid⟩

theorem vimeo_some {a : EmbedAtoms} {ty id : String} (h : unwrapGen (Gen.vimeoExtract a) = some (ty, id)) :
    ty = "vimeo" ∧ a.tag = "iframe" ∧ a.vmRoot "player.vimeo.com" = true ∧ id = a.vmId ∧ id ≠ "" := by
  simp [Gen.vimeoExtract, unwrapGen, Option.ite_none_left_eq_some, Gen.relevantVimeoTags] at h
  obtain ⟨_, ht, hr, hid, rfl, rfl⟩ := h
  exact ⟨rfl, ht, hr, rfl, hid⟩

theorem twitterRendered_some {a : EmbedAtoms} {ty id : String} (h : unwrapGen (Gen.twitterRendered a) = some (ty, id)) :
    ty = "twitter" ∧ a.tag = "iframe" ∧ a.twSrcRoot "twitter.com" = true ∧ id = a.tweetIdAttr ∧ id ≠ "" := by
  simp [Gen.twitterRendered, unwrapGen, Option.ite_none_left_eq_some] at h
  obtain ⟨ht, hr, hid, rfl, rfl⟩ := h
  exact ⟨rfl, ht, hr, rfl, hid⟩

theorem twitterNonRendered_some {a : EmbedAtoms} {ty id : String} (h : unwrapGen (Gen.twitterNonRendered a) = some (ty, id)) :
    ty = "twitter" ∧ a.twAnchorRoot "twitter.com" = true ∧ id = a.tweetIdFromUrl ∧ id ≠ "" := by
  simp [Gen.twitterNonRendered, unwrapGen, Option.ite_none_left_eq_some] at h
  obtain ⟨_, _, hr, hid, rfl, rfl⟩ := h
  exact ⟨rfl, hr, rfl, hid⟩

/-- **Only allow-listed services, with the id taken from that URL**: whenever the converter's
extractor chain recognises a node as a third-party embed, the service-specific URL passed the
root-domain test for one of the four allow-listed domains, and type and id are the service
name and the id the service's URL helper extracted from that same URL (non-empty). -/
theorem embed_only_allowlisted (a : EmbedAtoms) (ty id : String)
    (h : embedDecision a = some (ty, id)) :
    (ty = "twitter" ∧ a.tag = "blockquote" ∧ a.twAnchorRoot "twitter.com" = true ∧ id = a.tweetIdFromUrl ∧ id ≠ "") ∨
    (ty = "twitter" ∧ a.tag = "iframe" ∧ a.twSrcRoot "twitter.com" = true ∧ id = a.tweetIdAttr ∧ id ≠ "") ∨
    (ty = "vimeo" ∧ a.tag = "iframe" ∧ a.vmRoot "player.vimeo.com" = true ∧ id = a.vmId ∧ id ≠ "") ∨
    (ty = "youtube" ∧ (a.tag = "iframe" ∨ a.tag = "object") ∧
      (a.ytRoot "youtube.com" = true ∨ a.ytRoot "youtube-nocookie.com" = true) ∧ id = a.ytId ∧ id ≠ "") := by
  unfold embedDecision at h
  split at h
  · rename_i r hr
    cases h
    unfold twitterExtract at hr
    split at hr; · cases hr
    split at hr; · cases hr
    split at hr
    · rename_i htag
      obtain ⟨hty, hrest⟩ := twitterNonRendered_some hr
      exact Or.inl ⟨hty, eq_of_beq htag, hrest⟩
    · exact Or.inr (Or.inl (twitterRendered_some hr))
  · split at h
    · rename_i r hr
      cases h
      exact Or.inr (Or.inr (Or.inl (vimeo_some hr)))
    · exact Or.inr (Or.inr (Or.inr (youtube_some h)))

/-- the id helper returns one of the path segments (never something made up) -/
theorem idOf_mem (skip : Option String) (segs : List String) (h : idOf skip segs ≠ "") :
    idOf skip segs ∈ segs := by
  unfold idOf at *
  split at h
  · simp at h
  · rename_i s hs
    split at h
    · simp at h
    · rename_i hne
      simp only [hne]
      have := List.mem_of_find?_eq_some hs
      simpa using this

example : idOf (some "embed") ["", "embed", "abc123", ""] = "abc123" := by decide +kernel
example : idOf (some "embed") ["", "v", "embed"] = "" := by decide +kernel
example : idOf none ["", "jack", "status", "20"] = "20" := by decide +kernel

/-- an iframe that no extractor recognises is skipped by the converter without being
visited: `iframe` is in the generated "skipped silently" clause of the tag switch -/
theorem iframe_skipped_silently :
    ∃ c ∈ Gen.converterCases, "iframe" ∈ c.1 ∧ c.2 = "return false" := by
  decide +kernel

end Distill.C19
