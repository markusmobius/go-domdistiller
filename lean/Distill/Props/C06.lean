/-
  C06 — With a page URL, every link and media URL in the output is absolute.
  `abs` is the atom `CreateAbsoluteURL(·, pageURL)`; `absSet` rewrites each srcset candidate.
-/
import Distill.Props.AbsURLProps
import Distill.Props.RenderProps
import Distill.Proofs.Render
import Distill.Proofs.Srcset
import Distill.Gen.Tables
import Distill.Gen.Funcs
import Distill.Proofs.Basics
namespace Distill.C06
open Distill

/-- **Everywhere**: in the processed clone every rendering path serialises, each hyperlink
target, each img/source/track/video src, each video poster and each srcset is empty or an image
of the resolver — for every tree and every resolver. -/
theorem abs_everywhere (abs absSet : String → String) (n : Node) :
    (processClone abs absSet n).allUrlsAbs abs absSet :=
  processClone_abs abs absSet n

/-- the tags whose `src` is rewritten, from the generated switch -/
theorem src_tags_tie : srcTags = ["img", "source", "track", "video"] := by decide +kernel

/-- the page URL reaches every kind: the builder hands it to Text elements (`flushBlock`), and
each rendering function passes it to the absolutising passes (statement lists as they stand) -/
theorem url_reaches_every_kind :
    Gen.flushBlockBody = Gen.flushBlockBodyExpected ∧
    Gen.textGenerateOutputBody = Gen.textGenerateOutputBodyExpected ∧
    Gen.cloneAndProcessListBody = Gen.cloneAndProcessListBodyExpected ∧
    Gen.makeAllLinksAbsoluteBody = Gen.makeAllLinksAbsoluteBodyExpected ∧
    Gen.imageCloneAndProcessBody = Gen.imageCloneAndProcessBodyExpected ∧
    Gen.videoGenerateOutputBody = Gen.videoGenerateOutputBodyExpected ∧
    Gen.figureGenerateOutputBody = Gen.figureGenerateOutputBodyExpected ∧
    Gen.tableGenerateOutputBody = Gen.tableGenerateOutputBodyExpected := by
  refine ⟨rfl, rfl, rfl, rfl, rfl, rfl, rfl, rfl⟩

theorem passes_present :
    Gen.flushBlockBodyExpected.any (fun s => strContains s "text.PageURL = db.pageURL") = true ∧
    Gen.textGenerateOutputBodyExpected.contains "domutil.MakeAllLinksAbsolute(clonedRoot, t.PageURL)" = true ∧
    Gen.cloneAndProcessListBodyExpected.contains "MakeAllLinksAbsolute(clonedSubTree, pageURL)" = true ∧
    Gen.videoGenerateOutputBodyExpected.contains "domutil.MakeAllSrcSetAbsolute(vNode, v.PageURL)" = true ∧
    Gen.imageCloneAndProcessBodyExpected.contains "domutil.MakeAllSrcSetAbsolute(cloned, i.PageURL)" = true := by
  refine ⟨?_, by simp [Gen.textGenerateOutputBodyExpected, Gen.cloneAndProcessListBodyExpected,
    Gen.videoGenerateOutputBodyExpected, Gen.imageCloneAndProcessBodyExpected]⟩
  simp only [Gen.flushBlockBodyExpected, List.any_cons, List.any_nil, Bool.or_false]
  rw [strContains_ofList]
  decide +kernel

/-! ### repeated attributes

The parser keeps every copy of a repeated attribute (`<a href=x href=y>`), while `dom.GetAttribute`
/ `dom.SetAttribute` - and so every absolutising pass - only see the first.  The converter removes
the later copies from its clone before the walk, so all output derives from elements with distinct
attribute names, on which "the first `href`" and "every `href`" coincide. -/

theorem convert_dedups_first :
    Gen.converterConvertBody = ["clone := domutil.Clone(root, true)", "domutil.RemoveDuplicateAttributes(clone)",
      "domutil.WalkNodes(clone, dc.visitNodeHandler, dc.exitNodeHandler)"] := by rfl

/-- after the pass the attribute names of every element of the tree are pairwise distinct -/
theorem dedup_unique (n : Node) : (dedupNode n).uniqueKeys := dedupNode_unique n

/-- what `dom.GetAttribute` reads (the first copy) is the same before and after, so the pass
changes no decision of the converter -/
theorem dedup_reads_unaffected (attrs : List Attr) (k : String) : getAttr (dedupAttrs attrs []) k = getAttr attrs k := by
  unfold getAttr
  rw [dedupAttrs_find attrs [] k (by simp)]

example : dedupAttrs [⟨"href", "a"⟩, ⟨"class", "c"⟩, ⟨"href", "b"⟩, ⟨"HREF", "d"⟩, ⟨"class", "e"⟩] [] =
    [⟨"href", "a"⟩, ⟨"class", "c"⟩, ⟨"HREF", "d"⟩] := by decide +kernel


/-! ### srcset values

`absSet` above is the atom "what `makeSrcSetAbsolute` makes of a srcset value".  `Model/Srcset.lean`
opens it: the regular expression `rxSrcsetURL` with Go's leftmost-first matching spelled out, the
URLs `GetSrcSetURLs` returns and the value `makeSrcSetAbsolute` writes (the check runs it against the
real functions on candidate lists and on token soup). -/

/-- the regular expression the model spells out is the one in the source -/
theorem srcset_regexp_tie :
    Gen.modelledRegexps.lookup "internal/domutil.rxSrcsetURL" =
      some "(?i)(\\S+)((?:\\s+[\\d.]+(?:e[+-]?\\d+)?[xwh])*)(\\s*(?:,|$))" := by
  simp only [Gen.modelledRegexps, lookup_cons_ne, List.lookup_cons_self, ne_eq, String.reduceEq, not_false_eq_true]

/-- **Every candidate is found**: on candidates written `url d1 d2, url, url d` — URLs without white
space that start neither with a comma nor with something that reads as a descriptor, any number of
descriptors `[\d.]+(e[+-]?\d+)?[xwh]` — `GetSrcSetURLs` returns exactly the candidates' URLs, in
order; for every number of candidates and descriptors. -/
theorem srcset_candidates_found (cs : List Srcset.Cand) (h : ∀ c ∈ cs, Srcset.WFCand c) :
    Srcset.urls (Srcset.render cs) = cs.map (·.url) := Srcset.urls_render cs h

/-- **Every candidate is resolved, nothing else changes**: the value `makeSrcSetAbsolute` writes is
the same candidate list with every URL replaced by its resolution (premise: a comma directly after a
URL survives resolution, which the function relies on; measured on the real resolver by the check) -/
theorem srcset_candidates_resolved (abs : List Char → List Char) (cs : List Srcset.Cand)
    (h : ∀ c ∈ cs, Srcset.WFCand c) (hcomma : ∀ c ∈ cs, abs (c.url ++ [',']) = abs c.url ++ [',']) :
    Srcset.rewrite abs (Srcset.render cs) = Srcset.render (cs.map fun c => { c with url := abs c.url }) :=
  Srcset.rewrite_render abs cs h hcomma

/-- … and reading the written value back (ContentImages does) yields the resolved URLs -/
theorem srcset_resolved_read_back (abs : List Char → List Char) (cs : List Srcset.Cand)
    (h : ∀ c ∈ cs, Srcset.WFCand c) (hcomma : ∀ c ∈ cs, abs (c.url ++ [',']) = abs c.url ++ [','])
    (habs : ∀ c ∈ cs, Srcset.WFUrl (abs c.url)) :
    Srcset.urls (Srcset.rewrite abs (Srcset.render cs)) = cs.map (fun c => abs c.url) := by
  rw [Srcset.rewrite_render abs cs h hcomma, Srcset.urls_render, List.map_map]
  · rfl
  · exact List.forall_mem_map.mpr fun c hc => ⟨habs c hc, (h c hc).2⟩

/-- **Nothing is lost or moved, for EVERY srcset value**: the matches and the characters between them
spell the value, so with a resolver that changes nothing `makeSrcSetAbsolute` writes back the value
it read — whatever it looks like (token soup included).  What the function changes is confined to
the URLs it hands to the resolver. -/
theorem srcset_nothing_lost (s : List Char) : Srcset.rewrite id s = s := by
  unfold Srcset.rewrite
  refine Eq.trans ?_ (Srcset.pieces_concat (s.length + 1) s (Nat.lt_succ_self _))
  congr 1
  funext p
  cases p with
  | lit c => rfl
  | m x => exact Srcset.rewriteM_eq id x rfl

/-- … and every match is a stretch of the value: the pieces `FindAll` yields spell it -/
theorem srcset_pieces_spell_value (s : List Char) :
    (Srcset.pieces (s.length + 1) s).flatMap Srcset.Piece.text = s :=
  Srcset.pieces_concat (s.length + 1) s (Nat.lt_succ_self _)

/-! non-vacuity: a candidate list with two descriptors, an exponent density and a bare URL meets the
premises; and the model on the written-out value -/
example : ∀ c ∈ [(⟨"img/a.jpg".toList, ["400w".toList, "300h".toList]⟩ : Srcset.Cand), ⟨"../b.png".toList, []⟩,
    ⟨"2020/c.gif".toList, ["1e0x".toList]⟩], Srcset.WFCand c := by
  simp only [List.mem_cons, List.not_mem_nil, or_false, forall_eq_or_imp, forall_eq, Srcset.WFCand, Srcset.WFUrl,
    Srcset.WFDesc, false_imp_iff, implies_true, and_true]
  decide +kernel

example : Srcset.urls "img/a.jpg 400w 300h, ../b.png, 2020/c.gif 1e0x".toList =
    ["img/a.jpg".toList, "../b.png".toList, "2020/c.gif".toList] := by decide +kernel

example : String.ofList (Srcset.rewrite (fun u => "http://e/".toList ++ u) "img/a.jpg 400w 300h, b.png,c.gif 2x".toList) =
    "http://e/img/a.jpg 400w 300h, http://e/b.png,c.gif 2x" := by
  -- compared as character lists: deciding the equation between the strings goes through their UTF-8 bytes
  apply congrArg String.ofList
  decide +kernel

/-! non-vacuity -/
example : ((processClone (fun s => "http://e/" ++ s) (fun s => "S:" ++ s)
    (.elem 0 "p" [] [.elem 1 "a" [⟨"href", "x"⟩, ⟨"onclick", "y"⟩] [.text 2 "t"],
                     .elem 3 "img" [⟨"src", "i.png"⟩, ⟨"srcset", "a 1x"⟩, ⟨"class", "c"⟩] []])).elems.map Node.attrs) =
    [[], [⟨"href", "http://e/x"⟩], [⟨"src", "http://e/i.png"⟩, ⟨"srcset", "S:a 1x"⟩]] := by
  decide +kernel

end Distill.C06
