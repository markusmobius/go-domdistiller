/-
  Tree helpers shared by every stage (internal/domutil): the deep copy the converter works on,
  the ancestor tests and the foreign raw-text test.  The model works on immutable trees, so its
  "clone" is the tree itself, complete at every depth; what has to be tied is that the source's
  `Clone` copies every field the model reads (type, tag, namespace, attributes) and ALL children
  at every depth, and that the other helpers are the loops the model's definitions stand for.
-/
import Distill.Gen.Funcs
namespace Distill.DomHelpers
open Distill

/-- regenerated statement lists of `Clone`, `IsForeignRawTextElement`, `HasAncestor`, `Contains`,
`SomeNode`, `NodeName`, `GetFirstElementByTagName(Inc)` are the ones the model was written against -/
theorem dom_helpers_tie : Gen.domHelperBodies = Gen.domHelperBodiesExpected := by rfl

/-- the deep copy copies type, tag, namespace and attributes of every node and descends without a
bound: the only condition on the recursion is `deep`, which it passes on unchanged -/
theorem clone_unbounded :
    Gen.domHelperBodiesExpected.lookup "internal/domutil..Clone" = some
      ["clone := &html.Node{ Type: src.Type, DataAtom: src.DataAtom, Data: src.Data, Namespace: src.Namespace, Attr: append([]html.Attribute{}, src.Attr...), }",
       "if deep { for child := src.FirstChild; child != nil; child = child.NextSibling { clone.AppendChild(Clone(child, deep)) } }",
       "return clone"] := by
  simp only [Gen.domHelperBodiesExpected, List.lookup_cons_self]

end Distill.DomHelpers
