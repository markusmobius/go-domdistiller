/-
  C01 — Every entry point is total: no panic, no hang, well-formed result.

  What is *proved* here concerns the modelled hazards; the parser, the regexps, the heuristic
  filters and the pagination arithmetic are covered by the differential fuzz only (DESIGN §6 C01).
-/
import Distill.Props.LinkScoreProps
import Distill.Props.RenderProps
import Distill.Proofs.Root
import Distill.Proofs.Total
import Distill.Props.FiltersProps
import Distill.Gen.Inventory
import Distill.Gen.Funcs
import Distill.Proofs.PathPattern
import Distill.Proofs.PageGroups
namespace Distill.C01
open Distill

theorem depthElems_map (d : Nat) (es : List DocEl) : depthElems d (es.map toElem) = depthDoc d es := by
  induction es generalizing d with
  | nil => rfl
  | cons x xs ih =>
    cases x with
    | tag n s => cases s <;> cases d <;> simp [depthElems, depthDoc, toElem, ih]
    | media k i => cases k <;> simp [depthElems, depthDoc, toElem, MKind.toKind, ih]
    | _ => simp [depthElems, depthDoc, toElem, ih]

theorem depthElems_kinds (d : Nat) (es es' : List Elem) (h : es.map (·.kind) = es'.map (·.kind)) :
    depthElems d es = depthElems d es' := by
  induction es generalizing d es' with
  | nil => cases es' <;> simp_all [depthElems]
  | cons e r ih =>
    cases es' with
    | nil => simp at h
    | cons e' r' =>
      simp only [List.map_cons, List.cons.injEq] at h
      simp only [depthElems, h.1]
      cases e'.kind <;> (try cases d) <;> simp [ih _ r' h.2]

/-- a converted document's placeholders have depth zero at the end and never go negative -/
theorem embed_kinds_not_tags (cfg : CCfg) (A : CAtoms) (anc : List String) (hp : Bool) (n : Node) :
    depthDoc 0 (buildDoc (convert cfg A anc hp n)) = some 0 := by
  rw [← depthDoc_nonText, buildDoc_nonText]
  exact depth_of_tagRun [] [] _ (convertNode_balanced cfg A anc hp n [])

/-- **The retainer's `stack[len(stack)-1]` never panics.**  For every tree, converter mode and
atoms, and for every assignment of content flags (classifier verdict, relevant-elements and
lead-image filters: anything that keeps the kinds), `NestedElementRetainer.Process` finds a
start tag on its stack whenever it meets an end tag, and ends with an empty stack. -/
theorem retainer_never_panics (cfg : CCfg) (A : CAtoms) (anc : List String) (hp : Bool) (n : Node)
    (es : List Elem)
    (hk : es.map (·.kind) = ((buildDoc (convert cfg A anc hp n)).map toElem).map (·.kind)) :
    (nestedRetainer es).isSome = true := by
  have h1 : depthElems 0 es = some 0 := by
    rw [depthElems_kinds 0 es _ hk, depthElems_map]
    exact embed_kinds_not_tags cfg A anc hp n
  obtain ⟨s', us, h2, _⟩ := rrun_total {} 0 es 0 (by simpa using h1)
  simp [nestedRetainer, h2]

/-- **Every Text element has a first node** (`t.GetTextNodes()[0]` in `Text.GenerateOutput`,
`TextNodes[FirstWordNode]` in the lead-image finder): windows are non-empty slices — for every
event sequence. -/
theorem text_windows_nonempty (evs : List BEv) :
    ∀ t ∈ textsOf (buildDoc evs), t.start < t.stop ∧ t.stop ≤ (nodeIds evs).length :=
  Slices.of_mem _ _ _ (builder_windows evs).1

/-- the walk and the builder are total functions (the model's definitions are accepted by
Lean's termination checker: structural recursion over the tree / fold over the events), and a
converted document always has matching placeholders -/
theorem convert_total (cfg : CCfg) (A : CAtoms) (anc : List String) (hp : Bool) (n : Node) :
    tagRun [] (convert cfg A anc hp n) = some [] :=
  convertNode_balanced cfg A anc hp n []

/-- **Hazard inventory**: the index, slice, single-value type-assertion and explicit panic sites
of the library are exactly the reviewed ones (go/extract/expect/hazardSites.json; DESIGN §6 C01
says for each group why it cannot fail or that it is fuzz-only).  A new or changed site makes
this fail and re-opens the question. -/
theorem hazard_sites_tie : Gen.hazardSites = Gen.hazardSitesExpected := by rfl

/-- **`PathComponentPagePattern.IsPagingURL` never indexes out of range**, whatever URL string it
is asked about (the three slicing sites of `isPagingUrlForStartOfPathComponent`, the loop and
the two slices of `isPagingUrlForNotStartOfPathComponent`, `strURL[placeholderStart-1]`), for
every pattern whose stored fields are well-formed … -/
theorem paging_url_total (pp : PP.PathPat) (h : PP.WF pp) (url : PP.Bytes) :
    (PP.isPagingURL pp url).isSome = true :=
  PP.isPagingURL_total pp h url

/-- … which is what the constructor establishes whenever its own slices are in range … -/
theorem pattern_fields_wf (str : PP.Bytes) (origin : Int) (pp : PP.PathPat)
    (h : PP.construct str origin = some pp) : PP.WF pp :=
  PP.construct_wf str origin pp h

/-- … and they are, as soon as the placeholder occurs in the pattern string after a '/'
(the pattern string of an absolute URL starts with `scheme://`). -/
theorem pattern_construct_total (str : PP.Bytes) (origin : Int)
    (h1 : 0 ≤ PP.indexPlaceholder str)
    (h2 : ∀ head, PP.sliceTo str (PP.indexPlaceholder str) = some head → 0 ≤ PP.lastIndexSlash head) :
    (PP.construct str origin).isSome = true :=
  PP.construct_total str origin h1 h2

/-- non-vacuity: the pattern of `http://e.com/a/page-3.html` is well-formed and accepts page 12 -/
example : (PP.construct "http://e.com/a/page-[*!].html".toUTF8.toList 12).map
    (fun pp => (pp.pStart, pp.segStart, PP.isPagingURL pp "http://e.com/a/page-12.html".toUTF8.toList)) =
    some (20, 14, some true) := by decide +kernel

/-- `AddPageInfo`'s read of `prevPageInfo.PageNumber` is never a nil dereference under the
scan's call protocol (no CleanUp before the end): the remembered entry is the last entry of the
group being filled whenever that group is non-empty -/
theorem groups_prev_never_nil (ops : List Pg.GOp) (h : Pg.NoCleanUp ops) : Pg.Inv (Pg.runOps ops) :=
  Pg.runOps_inv ops h

/-- `HasPrefixIgnoreCase`: the first `len(prefix)` bytes of `str` fold-equal the
prefix (`eq` stands for `strings.EqualFold`, whatever it decides) -/
def hasPrefixFold (eq : List UInt8 → List UInt8 → Bool) (str pre : List UInt8) : Bool :=
  decide (pre.length ≤ str.length) && eq (str.take pre.length) pre

/-- when the test succeeds, `linkHref[lenPrefix:]` (prev/next finder) is in range — for every fold-equality -/
theorem prefix_slice_total (eq : List UInt8 → List UInt8 → Bool) (str pre : List UInt8)
    (h : hasPrefixFold eq str pre = true) :
    (PP.slice str pre.length str.length).isSome = true := by
  simp only [hasPrefixFold, Bool.and_eq_true, decide_eq_true_eq] at h
  simp [PP.slice, h.1]

/-- tie: the body of `stringutil.HasPrefixIgnoreCase` is that test -/
theorem prefix_test_tie :
    Gen.hasPrefixIgnoreCaseBody = ["return len(str) >= len(prefix) && strings.EqualFold(str[:len(prefix)], prefix)"] := rfl

/-- `Apply` and `NewContentExtractor` are the statements the model of the root selection follows;
the content node is a freshly created `div` (regenerated statement lists) -/
theorem apply_bodies_tie : Gen.applyBodies = Gen.applyBodiesExpected := by rfl

theorem apply_shape :
    (Gen.applyBodiesExpected.lookup "..Apply").map (fun l => (l.drop 1).take 1) =
      some ["if doc.Type != html.ElementNode { doc = dom.QuerySelector(doc, \"*\") if doc == nil { return nil, errors.New(\"input doesn't have a valid element\") } }"] ∧
    ((Gen.applyBodiesExpected.lookup "..Apply").map (fun l => l.contains "container := dom.CreateElement(\"div\")" && l.contains "result.Node = container")) = some true ∧
    (Gen.applyBodiesExpected.lookup "internal/extractor..NewContentExtractor").map (fun l => (l.drop 1).take 2) =
      some ["document := dom.QuerySelector(root, \"html\")", "if document == nil { document = root }"] := by
  simp [Gen.applyBodiesExpected, lookup_cons_ne]

/-- **Root validation.** Whatever root the caller hands in — a document, an element, a detached
fragment, a text or comment node — `Apply` either returns the error or goes on with an element, and
the document element the extractor converts is an element of the caller's tree.  This is the
premise `top.isElem` of `text_render_total` and of the converter's theorems. -/
theorem root_is_element (doc : Node) (docKids : List Node) (r : Node) (h : applyRoot doc docKids = some r) :
    r.isElem = true ∧ (extractorRoot r).isElem = true :=
  ⟨applyRoot_isElem doc docKids r h, extractorRoot_isElem r (applyRoot_isElem doc docKids r h)⟩

/-- the error is returned exactly when a non-element root has no element below it -/
theorem root_error_iff (doc : Node) (docKids : List Node) :
    applyRoot doc docKids = none ↔ (doc.isElem = false ∧ firstElemL (fun _ => true) docKids = none) := by
  unfold applyRoot
  cases h : doc.isElem <;> simp

example : (applyRoot (.other 0 3) [.other 1 10, .elem 2 "html" [] [.elem 3 "body" [] []]]).map Node.id = some 2 := by decide +kernel
example : applyRoot (.other 0 3) [.other 1 10, .text 2 "x"] = none := by decide +kernel
example : (extractorRoot (.elem 0 "div" [] [.elem 1 "p" [] [], .elem 2 "html" [] []])).id = 2 := by decide +kernel
example : (extractorRoot (.elem 0 "html" [] [.elem 1 "body" [] []])).id = 0 := by decide +kernel

end Distill.C01
