/-
  C04 — Non-rendered and non-reading content never leaks into the output.

  Main walk: proved for every tree and all atoms.  Secondary paths (cloned data tables and
  figure captions): `GetOutputNodes` is modelled in Distill.Model.Render and proved to apply
  the same visibility filter.
-/
import Distill.Props.RenderProps
import Distill.Proofs.Convert
import Distill.Model.Render
import Distill.Gen.Funcs
import Distill.Gen.Tables
import Distill.Proofs.Style
import Distill.Model.Derive
import Distill.Proofs.Basics
namespace Distill.C04
open Distill

/-- **Semantics of the visibility test** (about the expression regenerated from
`domutil.IsProbablyVisible`): each of the listed techniques makes an element invisible. -/
theorem hidden_sem (v : VisAtoms)
    (h : v.display = "none" ∨ v.hasHidden = true ∨ v.visHidden = true ∨
         (v.ariaHidden = "true" ∧ v.fallbackImage = false)) :
    Gen.isProbablyVisible v = some false := by
  simp only [Gen.isProbablyVisible]
  rcases h with h | h | h | ⟨h1, h2⟩
  · simp [h]
  · simp [h]
  · simp [h]
  · simp [h1, h2]

/-- script, style, link and meta have default display `none` in the generated table -/
theorem default_display_none :
    defaultDisplay "script" = "none" ∧ defaultDisplay "style" = "none" ∧
    defaultDisplay "link" = "none" ∧ defaultDisplay "meta" = "none" := by
  decide +kernel

/-- the two skip clauses of the converter's tag switch contain exactly the kinds the property
lists (plus link/script/style/head, which are also non-rendered) -/
theorem skip_tags :
    ["option", "object", "embed", "applet", "input", "button", "form", "textarea", "select"].all skipFlushTag = true ∧
    ["head", "style", "script", "link", "noscript", "iframe", "svg"].all skipSilentTag = true := by
  decide +kernel

/-- **Main walk.** Whatever the converter hands to the document builder is text that is not
inside a hidden element and not inside a skipped kind of element — for every tree, mode and
atoms; in particular nothing under such an element can reach the distilled text. -/
theorem walk_skips (cfg : CCfg) (A : CAtoms) (anc : List String) (hp : Bool) (n : Node) :
    (textEvIds (convert cfg A anc hp n)).Sublist (n.visTextIds A) :=
  convertNode_visible_sublist cfg A anc hp n

/-- a hidden element contributes no builder call at all (no text, no media, no tag) -/
theorem hidden_element_silent (cfg : CCfg) (A : CAtoms) (anc : List String) (hp : Bool)
    (i : Nat) (t : String) (attrs : List Attr) (ks : List Node) (h : visible A i t attrs = false) :
    convertNode cfg A anc hp (.elem i t attrs ks) = [] := by
  simp [convertNode_elem, visitElem, gateSkip, h]

/-- **Cloned tables and captions.** The node list `GetOutputNodes` collects for a table /
caption clone contains no node inside an element the visibility test rejects. -/
theorem output_nodes_visible (A : CAtoms) (n : Node) :
    (outputTextIds A n).Sublist (n.visibleOnlyTextIds A) :=
  outputTextIds_sublist A n

/-- the statement list of `GetOutputNodes` as it stands (script/style and visibility filter) -/
theorem get_output_nodes_tie : Gen.getOutputNodesBody = Gen.getOutputNodesBodyExpected := by rfl


/-! ### what the visibility test reads from an inline style

`styleDisplay` and `visHidden` above are atoms.  `Model/Style.lean` opens them: both regular
expressions with Go's matching spelled out, every match of `rxDisplay`, and the cascade of
`GetDisplayStyle` (the check runs it against the real functions on declaration lists and token soup). -/

/-- the two expressions the model spells out are the ones in the source -/
theorem style_regexps_tie :
    Gen.modelledRegexps.lookup "internal/domutil.rxDisplay" =
      some "(?i)display\\s*:\\s*([\\w-]+)\\s*(!\\s*important\\s*)?(?:;|$)" ∧
    Gen.modelledRegexps.lookup "internal/domutil.rxVisibilityHidden" =
      some "(?i)visibility\\s*:\\s*(:?hidden|collapse)" := by
  simp only [Gen.modelledRegexps, lookup_cons_ne, List.lookup_cons_self, ne_eq, String.reduceEq, not_false_eq_true,
    and_self]

/-- `GetDisplayStyle` (all matches, the cascade) and `IsProbablyVisible` as they stand -/
theorem style_bodies_tie : Gen.styleBodies = Gen.styleBodiesExpected := by rfl

/-- **Every spelling of every declaration is read**: in a style attribute made of `display`
declarations — any case, any white space around the colon, before `!important`, inside it and before
the semicolon — every declaration is found with its value and its importance, in order; for any
number of declarations. -/
theorem display_declarations_read (ds : List Style.Decl) (h : ∀ d ∈ ds, d.WF) :
    Style.displayAll ((Style.render ds).length + 1) (Style.render ds) = ds.map Style.Decl.toMatch :=
  Style.displayAll_render ds h _ (Nat.lt_succ_self _)

/-- **The last declaration decides** when none before it is important … -/
theorem last_display_decides (pre : List Style.Decl) (d : Style.Decl) (h : ∀ x ∈ pre ++ [d], x.WF)
    (hpre : ∀ x ∈ pre, x.imp = none) :
    Style.display (Style.render (pre ++ [d])) = some (d.value.map Style.lower) := by
  unfold Style.display
  rw [display_declarations_read _ h, Style.cascade_none, List.map_append, List.filter_append, Style.no_important hpre]
  cases hd : d.imp.isSome <;> simp [List.filter, hd, Style.Decl.toMatch]

/-- … **and an important one stays** whatever unimportant declarations follow it: with
`display:none !important` anywhere and no important declaration after it, the element is not rendered -/
theorem important_display_stays (pre post : List Style.Decl) (d : Style.Decl)
    (h : ∀ x ∈ pre ++ [d] ++ post, x.WF) (hd : d.imp.isSome = true) (hpost : ∀ x ∈ post, x.imp = none) :
    Style.display (Style.render (pre ++ [d] ++ post)) = some (d.value.map Style.lower) := by
  unfold Style.display
  rw [display_declarations_read _ h, Style.cascade_none]
  simp [List.filter_append, Style.no_important hpost, List.filter, Style.Decl.toMatch, hd]

/-- **`visibility: hidden | collapse` is recognised in every spelling, wherever it stands** in the
attribute: any case, any white space before and after the colon, anything before and after -/
theorem visibility_hidden_any_spelling (a name w1 w2 kw b : List Char)
    (hn : Style.FoldsTo name "visibility".toList) (h1 : Style.AllWS w1) (h2 : Style.AllWS w2)
    (hk : (Style.FoldsTo kw "hidden".toList ∨ Style.FoldsTo kw "collapse".toList) ∧
      ∀ c ∈ kw, Style.isWS c = false ∧ c ≠ ':') :
    Style.visHidden (a ++ (name ++ w1 ++ ':' :: w2 ++ kw ++ b)) = true :=
  Style.visHidden_append_left a _ (Style.visHidden_of_visAt _ (Style.visAt_spelled name w1 w2 kw b hn h1 h2 hk))

/-! ### from the written style attribute to silence

With the per-element answers computed by the model from the attributes (`deriveAtoms`, which is how the
convert / outputnodes / textrender / imageextract correspondence runs), the two chains close: a
declaration in the style attribute, in any spelling, silences the element. -/

/-- an element whose style attribute is a list of `display` declarations the last of which says
`none` (no earlier one being important) contributes no builder call at all -/
theorem display_none_declaration_silences (cfg : CCfg) (A : CAtoms) (anc : List String) (hp : Bool)
    (i : Nat) (t : String) (attrs : List Attr) (ks : List Node)
    (hA : A.styleDisplay i = derivedDisplay attrs)
    (pre : List Style.Decl) (d : Style.Decl) (hwf : ∀ x ∈ pre ++ [d], x.WF) (hpre : ∀ x ∈ pre, x.imp = none)
    (hstyle : (getAttr attrs "style").toList = Style.render (pre ++ [d]))
    (hnone : d.value.map Style.lower = "none".toList) :
    convertNode cfg A anc hp (.elem i t attrs ks) = [] := by
  apply hidden_element_silent
  have hd : derivedDisplay attrs = "none" := by
    unfold derivedDisplay
    rw [hstyle, last_display_decides pre d hwf hpre, hnone]
    rfl
  unfold visible
  rw [hidden_sem _ (Or.inl (by simp [visAtoms, displayOf, hA, hd]))]

/-- an element whose style attribute contains `visibility: hidden | collapse` in any spelling, anywhere,
contributes no builder call at all -/
theorem visibility_declaration_silences (cfg : CCfg) (A : CAtoms) (anc : List String) (hp : Bool)
    (i : Nat) (t : String) (attrs : List Attr) (ks : List Node)
    (hA : A.visHidden i = derivedVisHidden attrs)
    (a name w1 w2 kw b : List Char)
    (hn : Style.FoldsTo name "visibility".toList) (h1 : Style.AllWS w1) (h2 : Style.AllWS w2)
    (hk : (Style.FoldsTo kw "hidden".toList ∨ Style.FoldsTo kw "collapse".toList) ∧
      ∀ c ∈ kw, Style.isWS c = false ∧ c ≠ ':')
    (hstyle : (getAttr attrs "style").toList = a ++ (name ++ w1 ++ ':' :: w2 ++ kw ++ b)) :
    convertNode cfg A anc hp (.elem i t attrs ks) = [] := by
  apply hidden_element_silent
  have hv : derivedVisHidden attrs = true := by
    unfold derivedVisHidden
    rw [hstyle]
    exact visibility_hidden_any_spelling a name w1 w2 kw b hn h1 h2 hk
  unfold visible
  rw [hidden_sem _ (Or.inr (Or.inr (Or.inl (by simp [visAtoms, hA, hv]))))]

/-- `deriveAtoms` supplies exactly the premises `hA` of the two theorems for every element of the tree -/
theorem derive_supplies (t : Node) (A : CAtoms) (i : Nat) :
    (deriveAtoms t A).styleDisplay i = derivedDisplay (attrsOf t i) ∧
    (deriveAtoms t A).visHidden i = derivedVisHidden (attrsOf t i) := by
  simp only [deriveAtoms, and_self]

/-! non-vacuity -/
example : Style.display "color:red; DISPLAY :\tNone ! Important ;display:block".toList = some "none".toList := by
  decide +kernel
example : Style.display "display:block;display:none".toList = some "none".toList := by decide +kernel
example : Style.display "margin:0".toList = none := by decide +kernel
example : Style.visHidden "margin:0;VISIBILITY : Collapse".toList = true := by decide +kernel
example : Style.visHidden "visibility:visible".toList = false := by decide +kernel
example : (⟨"Display".toList, " ".toList, [], "NONE".toList, "\t".toList, some ([], "IMPORTANT".toList, " ".toList)⟩ : Style.Decl).WF := by
  simp only [Style.Decl.WF, Style.AllWS]
  exact ⟨.of_lit (by decide), by decide, by decide, by decide, by decide, by decide, by decide, by decide,
    .of_lit (by decide), by decide⟩

end Distill.C04
