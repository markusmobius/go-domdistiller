/-
  C17 — Conventional pagers are resolved correctly (page-number algorithm).
  Definitions and what the kernel evaluates: Props/C17Defs.lean; one evaluation per family: Props/C17Fam*.lean.
-/
import Distill.Proofs.ScanPager
import Distill.Props.LinkScoreProps
import Distill.Proofs.Terms
import Distill.Gen.Tables
import Distill.Gen.Funcs
import Distill.Proofs.Pagination
import Distill.Proofs.PageGroups
import Distill.Props.C17Fam0
import Distill.Props.C17Fam1
import Distill.Props.C17Fam2
import Distill.Props.C17Fam3
import Distill.Props.C17Fam4
import Distill.Props.C17Fam5
import Distill.Props.C17Fam6
import Distill.Props.C17Fam7
import Distill.Props.C17Fam8
namespace Distill.C17
open Distill.Pg Distill.Gen

theorem families_ok : ∀ f ∈ pagerFamilies, famOk f = true := by
  simp only [pagerFamilies, List.forall_mem_cons, List.not_mem_nil, false_imp_iff, implies_true, and_true]
  exact ⟨fam0_ok, fam1_ok, fam2_ok, fam3_ok, fam4_ok, fam5_ok, fam6_ok, fam7_ok, fam8_ok⟩

/-- **Conventional pagers.**  For every URL family, 2 ≤ N ≤ 12 and page k of N: from the group a conventional
pager leaves (`pagerGroups`) and the implementation's own page-pattern answers, detection and selection return
the links of pages k+1 and k−1 (the empty string at either end). -/
theorem conventional_pagers (f : PagerFamily) (hf : f ∈ pagerFamilies) (n k : Nat)
    (hn : 2 ≤ n ∧ n ≤ 12) (hk : 1 ≤ k ∧ k ≤ n) :
    result f n k = some (expected f.pages n k) :=
  famOk_cells (families_ok f hf) (n, k) (allCells_complete n k hn hk)

/-- **… on page 1 addressed without the parameter.** -/
theorem first_page_bare (f : PagerFamily) (hf : f ∈ pagerFamilies) (n : Nat) (hn : 2 ≤ n ∧ n ≤ 12) :
    resultBare f n = expected f.pages n 1 := by
  have hmem : n ∈ allN := by
    simp only [allN, List.mem_map, List.mem_range]
    exact ⟨n - 2, by omega, by omega⟩
  exact famOk_bare (families_ok f hf) n hmem

/-- the entries of the group `pagerGroups pages n k` -/
def pagerEntries (pages : List String) (n k : Nat) : List PInfo :=
  (List.range n).map (fun i =>
    ({ num := ((i + 1 : Nat) : Int), url := if i + 1 == k then "" else pages.getD i "" } : PInfo))

theorem ascending_range (f : Nat → String) (n : Nat) :
    ((List.range n).map (fun i => ({ num := ((i + 1 : Nat) : Int), url := f i } : PInfo))).Pairwise (·.num < ·.num) :=
  List.pairwise_map.2 (List.pairwise_lt_range.imp fun h => by simp only; omega)

/-- **From the scan's calls to the group.**  For every N ≥ 2 (no bound) the calls the scan
makes for a conventional pager — AddGroup, then one AddPageInfo/AddNumber per entry in
ascending order, CleanUp — leave exactly the one group the table theorem is about. -/
theorem pager_calls_give_group (pages : List String) (n k : Nat) (hn : 2 ≤ n) :
    (runOps (GOp.addGroup :: (pagerEntries pages n k).map GOp.add ++ [GOp.cleanUp])).groups = pagerGroups pages n k := by
  have hlen : 2 ≤ (pagerEntries pages n k).length := by simpa [pagerEntries] using hn
  rw [Pg.ascending_one_group _ hlen (ascending_range _ n)]
  rfl

/-- **The DOM scan on a conventional pager.**  For a pager of N links, 2 ≤ N ≤ 12, seen from page k —
the links 1 … N in one element, the current page as plain text or wrapped in `<strong>`, with or without
white-space text nodes between the items — the scan of `Model/Scan.lean` (executed against the real scan,
stage numberscan) leaves exactly one group: 1 … N ascending, every link with its URL, the current
page without.  Kernel evaluation over the 77 × 4 cells. -/
theorem conventional_pager_scan (n k : Nat) (hn : 2 ≤ n ∧ n ≤ 12) (hk : 1 ≤ k ∧ k ≤ n) (wrap sep : Bool) :
    (Scan.scanGroups (ScanPager.atoms n k wrap sep) (ScanPager.tree n k wrap sep)).map
      (·.map fun g => (g.deltaSign, g.list.map fun p => (p.num, p.url))) = some (ScanPager.canonical n k) := by
  have := ScanPager.pager_scan_cells (n, k) (allCells_complete n k hn hk) wrap (by cases wrap <;> simp) sep (by cases sep <;> simp)
  simpa [ScanPager.cellOk] using this

/-- **Prev/next algorithm.**  A candidate that is not banned, scored at least 50 and scored
strictly higher than every other eligible candidate with a different href is what the finder
returns.  (The harness checks, for every enumerated pager with an anchor labelled Next /
Prev / Previous, that the scores the implementation gave meet these premises for the labelled
anchor.) -/
theorem prevnext_labelled (banned : List String) (cs : List Cand) (c : Cand)
    (hm : c ∈ cs) (hb : c.href ∉ banned) (hs : c.score ≥ 50)
    (hbest : ∀ c' ∈ cs, c'.href ∉ banned → c'.href ≠ c.href → c'.score < c.score) :
    prevNextResult banned cs = c.href := by
  rcases Pg.prevNextResult_spec banned cs with ⟨_, hn⟩ | ⟨r, hr, h, he, hmax⟩
  · exact absurd ⟨hb, hs⟩ (hn c hm)
  · rw [h]
    refine Classical.byContradiction fun hne => ?_
    have := hbest r hr he.1 hne
    have := hmax c hm ⟨hb, hs⟩
    omega

/-- **The labelled anchor is returned**, with the scores derived in the model rather than read from the
implementation: among the anchors of a page, let `A` be a candidate with at least 50 points whose URL
is not banned, and let every candidate with another URL score less (for a conventional pager this is
what `labelled_anchor_wins` gives: the labelled anchor to the neighbouring page is 41 points ahead of
every numbered one).  Then the prev/next finder returns `A`'s URL. -/
theorem labelled_anchor_is_returned (next : Bool) (Fs : List LinkScore.Facts) (A : LinkScore.Facts) (sa : Int)
    (hA : A ∈ Fs) (hv : LinkScore.verdict next A = .cand sa) (hs : sa ≥ 50)
    (hnb : ∀ G ∈ Fs, LinkScore.verdict next G = .banned → G.href ≠ A.href)
    (hbest : ∀ G ∈ Fs, ∀ sg, LinkScore.verdict next G = .cand sg → G.href ≠ A.href → sg < sa) :
    LinkScore.findOutlink next Fs = A.href := by
  rw [LinkScore.findOutlink_eq]
  refine prevnext_labelled _ _ ⟨A.href, sa⟩ (LinkScore.mem_candsOf.2 ⟨A, hA, hv, rfl⟩) ?_ hs ?_
  · intro hb
    obtain ⟨G, hG, hg, e⟩ := LinkScore.mem_bannedOf.1 hb
    exact hnb G hG hg e
  · intro c hc _ hne
    obtain ⟨G, hG, hgv, hh⟩ := LinkScore.mem_candsOf.1 hc
    exact hbest G hG _ hgv (hh ▸ hne)

example : prevNextResult [] [⟨"http://e.com/a?page=1", 25⟩, ⟨"http://e.com/a?page=3", 100⟩, ⟨"http://e.com/a?page=3", 33⟩] =
    "http://e.com/a?page=3" := by decide +kernel

/-- the table is not empty: 7 families, 77 cells each -/
theorem coverage : pagerFamilies.length = 9 ∧ allCells.length = 77 := by decide +kernel

/-- the three functions and the four regular expressions `Model/Terms.lean` spells out are the
ones in the source -/
theorem term_reading_tie :
    Gen.pageTermBodies = Gen.pageTermBodiesExpected ∧
    Gen.modelledRegexps.lookup "internal/pagination.rxNumber" = some "\\d" ∧
    Gen.modelledRegexps.lookup "internal/pagination.rxTerms" = some "(?i)(\\S*[\\w\\x{00C0}-\\x{1FFF}\\x{2C00}-\\x{D7FF}]\\S*)" ∧
    Gen.modelledRegexps.lookup "internal/pagination.rxSurroundingDigits" = some "(?i)^[\\W_]*(\\d+)[\\W_]*$" ∧
    Gen.modelledRegexps.lookup "internal/pagination.rxLinkNumberCleaner" = some "[()\\[\\]{}]" := by
  refine ⟨rfl, ?_⟩
  simp only [Gen.modelledRegexps, lookup_cons_ne, List.lookup_cons_self, ne_eq, String.reduceEq, not_false_eq_true,
    and_self]

/-- **The current page is recognised whatever decorates it**: a run of ASCII digits between any
characters that are neither ASCII letters nor digits — brackets, dashes, dots, guillemets, no-break
or ideographic spaces, CJK — is read as that number. -/
theorem decorated_current_page (pre ds suf : List Char)
    (hpre : pre.all (fun c => !Pg.isAsciiAlnum c) = true)
    (hds : ds.all Pg.isAsciiDigit = true) (hne : ds ≠ [])
    (hsuf : suf.all (fun c => !Pg.isAsciiAlnum c) = true) :
    Pg.termNumber (pre ++ ds ++ suf) = some (Pg.digitsVal ds) :=
  Pg.decorated_number pre ds suf hpre hds hne hsuf

/-- and a term that holds an ASCII letter never is -/
theorem lettered_term_is_no_number (t : List Char) (c : Char) (hc : c ∈ t)
    (hl : Pg.isAsciiAlnum c = true) (hnd : Pg.isAsciiDigit c = false) : Pg.termNumber t = none :=
  Pg.letter_term_not_number t c hc hl hnd

end Distill.C17
