/-
  C08 — Media and tables are retained exactly when they follow retained text
  (the single exception: at most one image/figure promoted as lead image).

  Model: Distill.Model.DocFilters (the three document filters on the flat element list).
  Everything here is for *every* element list, *every* heuristic verdict (the content
  flags on the Text elements) and *every* scoring function.
-/
import Distill.Proofs.DocFilters
import Distill.Proofs.Retainer
import Distill.Gen.Funcs
import Distill.Proofs.Basics
namespace Distill.C08
open Distill

/-- **Tie to the source**: the loop body of `RelevantElements.Process`, as translated from the
current source on this run, is the step function the model (and `media_iff`) uses. -/
theorem relevantStep_tie (isContent isText inContent : Bool) :
    Gen.relevantStep isContent isText inContent = some (relevantStep isContent isText inContent) := by
  cases isContent <;> cases isText <;> cases inContent <;> rfl

/-- the lead-image threshold in the source is the model's -/
theorem leadMinScore_tie : Gen.imageMinimumAcceptedScore = some leadMinScore.toNat := by rfl

def evIdx : List REv → List Nat
  | [] => []
  | .item _ :: es => evIdx es
  | .start i :: es => i :: evIdx es
  | .stop j :: es => j :: evIdx es

theorem evIdx_cons (e : REv) (es : List REv) : evIdx (e :: es) = evIdx [e] ++ evIdx es := by
  cases e <;> rfl

theorem rstep_updates {s s1 : RSt} {e : REv} {o : List (Nat × Bool)} (h : rstep s e = some (s1, o)) :
    ∀ i, i ∈ o.map (·.1) ∨ i ∈ s1.stack.map (·.2) → i ∈ evIdx [e] ∨ i ∈ s.stack.map (·.2) := by
  intro i hi
  cases e with
  | item c => cases h; exact .inr (hi.resolve_left nofun)
  | start i => cases h; simpa [evIdx, -List.mem_map] using hi
  | stop j =>
    cases hs : s.stack with
    | nil => simp [rstep, hs] at h
    | cons top rest =>
      simp only [rstep, hs] at h
      cases h
      simpa [evIdx, -List.mem_map, or_assoc, or_left_comm] using hi

theorem rrun_updates (s : RSt) (evs : List REv) (s' : RSt) (us : List (Nat × Bool))
    (h : rrun s evs = some (s', us)) :
    ∀ p ∈ us, p.1 ∈ evIdx evs ∨ p.1 ∈ s.stack.map (·.2) := by
  fun_induction rrun s evs generalizing s' us with
  | case1 s => cases h; exact List.forall_mem_nil _
  -- the step, or the rest, fails
  | case2 | case3 => cases h
  | case4 s e evs s1 o1 hst s2 o2 hr ih =>
    cases h
    intro p hp
    rw [evIdx_cons, List.mem_append, or_assoc]
    rcases List.mem_append.1 hp with hp | hp
    · exact (rstep_updates hst p.1 (.inl (List.mem_map_of_mem hp))).imp_right .inr
    · rcases ih s2 o2 hr p hp with hp | hp
      · exact .inr (.inl hp)
      · exact (rstep_updates hst p.1 (.inr hp)).imp_right .inr

theorem evIdx_revsFrom (k : Nat) (es : List Elem) :
    ∀ i ∈ evIdx (revsFrom k es), k ≤ i ∧ ∃ e, es[i - k]? = some e ∧ e.kind.isTag = true := by
  fun_induction revsFrom k es with
  | case1 => exact List.forall_mem_nil _
  | case2 k e es ih =>
    intro i hi
    rw [evIdx_cons, List.mem_append] at hi
    rcases hi with hi | hi
    · have : e.kind.isTag = true ∧ i = k := by
        rw [revOf] at hi
        cases hk : e.kind <;> rw [hk] at hi <;> simp [evIdx] at hi <;> exact ⟨rfl, hi⟩
      exact ⟨this.2 ▸ Nat.le_refl _, e, by simp [this.2], this.1⟩
    · obtain ⟨h1, e', h2, h3⟩ := ih i hi
      exact ⟨by omega, e', by rw [show i - k = (i - (k+1)) + 1 by omega]; simpa using h2, h3⟩

/-- The retainer only ever assigns flags to Tag elements. -/
theorem retainer_touches_tags_only (es out : List Elem) (h : nestedRetainer es = some out) :
    out.length = es.length ∧
    ∀ (i : Nat) (e : Elem), es[i]? = some e → e.kind.isTag = false → out[i]? = some e := by
  unfold nestedRetainer at h
  split at h
  · simp at h
  · rename_i s' us hr
    simp at h; subst h
    refine ⟨applyFlags_length _ _, ?_⟩
    intro i e he hk
    rw [applyFlags_get, he]
    have : finalFlag i us = none := by
      apply finalFlag_none_of_not_mem
      intro p hp heq
      rcases rrun_updates _ _ _ _ hr p hp with h1 | h1
      · obtain ⟨_, e', h2, h3⟩ := evIdx_revsFrom 0 es p.1 h1
        rw [heq] at h2; simp at h2; rw [he] at h2; cases h2
        rw [hk] at h3; cases h3
      · simp at h1
    simp [this]

/-- **C08, main statement.**  Run the three document filters, in the order the extractor
runs them, on any freshly built element list (media and tags not yet content) under any
classifier verdict and any image scores.  Then for every media element (image, figure,
video, embed, data table) its final content flag is: the flag of the nearest preceding
Text — or it is *the* lead image; Text flags are untouched; and the lead image, if any, is
an image or figure. -/
theorem media_iff (score : Nat → Int) (es out : List Elem) (hfresh : FreshMedia es)
    (h : docFilters score es = some out) :
    out.length = es.length ∧
    (∀ (i : Nat) (e : Elem), es[i]? = some e → e.isText = true → out[i]? = some e) ∧
    (∀ (i : Nat) (e : Elem), es[i]? = some e → e.kind.isMedia = true →
      ∃ o, out[i]? = some o ∧ o.kind = e.kind ∧
        o.content = (prevText false es i || leadIndex score (relevantElements es) == some i)) ∧
    (∀ (i : Nat), leadIndex score (relevantElements es) = some i →
      ∃ e, es[i]? = some e ∧ (e.kind = .image ∨ e.kind = .figure)) := by
  unfold docFilters at h
  have hrel : relevantElements es = relevantSpec false es := relevantGo_eq_spec false es hfresh
  obtain ⟨hlen, htag⟩ := retainer_touches_tags_only _ _ h
  -- the lead image is an image or figure of `es`: `relevantSpec` changes content flags only
  have hlead : ∀ i, leadIndex score (relevantElements es) = some i →
      ∃ e, es[i]? = some e ∧ (e.kind = .image ∨ e.kind = .figure) := by
    intro i hl
    obtain ⟨e', he', hk, _⟩ := leadIndex_spec hl
    rw [hrel, relevantSpec_get] at he'
    obtain ⟨e, he, rfl⟩ := Option.map_eq_some_iff.1 he'
    exact ⟨e, he, by split at hk <;> exact hk⟩
  have hmid : ∀ (i : Nat) (e : Elem), es[i]? = some e →
      (leadImage score (relevantElements es))[i]? = some
        (let r := if e.isText then e else { e with content := prevText false es i }
         if leadIndex score (relevantElements es) = some i then { r with content := true } else r) := by
    intro i e he
    rw [leadImage_get, hrel, relevantSpec_get, he]; rfl
  refine ⟨by rw [hlen, leadImage_length, hrel, relevantSpec_length], ?_, ?_, hlead⟩
  · -- Text elements are never the lead image, and are no tags
    intro i e he ht
    have hk : e.kind = .text := by simpa [Elem.isText] using ht
    have hnl : leadIndex score (relevantElements es) ≠ some i := fun hl => by
      obtain ⟨e', he', hk'⟩ := hlead i hl
      cases he.symm.trans he'
      rcases hk' with hk' | hk' <;> rw [hk] at hk' <;> cases hk'
    have hm := hmid i e he
    simp only [ht, if_true, hnl, if_false] at hm
    exact htag i e hm (by rw [hk]; rfl)
  · -- media are neither Text nor tags
    intro i e he hm
    have hk : e.isText = false ∧ e.kind.isTag = false := by
      revert hm; rw [Elem.isText]; cases e.kind <;> decide
    have hm' := hmid i e he
    simp only [hk.1] at hm'
    refine ⟨_, htag i _ hm' (by split <;> exact hk.2), by split <;> rfl, ?_⟩
    by_cases hl : leadIndex score (relevantElements es) = some i <;> simp [hl]

/-- At most one element is promoted: the lead index is a function of the input. -/
theorem lead_at_most_one (score : Nat → Int) (es : List Elem) (i j : Nat)
    (hi : leadIndex score es = some i) (hj : leadIndex score es = some j) : i = j := by
  rw [hi] at hj; exact Option.some.inj hj

/-- the lead-image filter, its two scorers, the nested-element retainer and the depth helpers are the
regenerated statement lists the model was written against -/
theorem lead_image_bodies_tie : Gen.leadImageBodies = Gen.leadImageBodiesExpected := by rfl

/-- the only heuristics in use and their maxima -/
theorem lead_heuristics_tie :
    Gen.leadImageBodiesExpected.lookup "internal/filter/docfilter.LeadImageFinder.getLeadHeuristics" =
      some ["return []scorer.ImageScorer{ scorer.NewImageDomDistanceScorer(25, firstContent), scorer.NewImageHasFigureScorer(15), }"] := by
  simp only [Gen.leadImageBodiesExpected, lookup_cons_ne, List.lookup_cons_self, ne_eq, String.reduceEq, not_false_eq_true]

/-- the caps never bite: a score is the plain sum of the two parts and at most 40 -/
theorem imageScore_sum (d : Nat) (fig : Bool) :
    imageScore d fig = ((domDistanceScore d + hasFigureScore fig : Nat) : Int) ∧ imageScore d fig ≤ 40 := by
  have h1 := domDistanceScore_le d
  have h2 : hasFigureScore fig ≤ 15 := by cases fig <;> decide
  unfold imageScore
  rw [Nat.min_eq_left h1, Nat.min_eq_left h2]
  exact ⟨rfl, by omega⟩

/-- **The single exception, characterised**: an image or figure can be promoted as lead image exactly
when it is (inside) a `figure` or at most five levels separate the first retained text from their
nearest common ancestor — for every depth. -/
theorem promotable_iff (d : Nat) (fig : Bool) : imageScore d fig > leadMinScore ↔ (fig = true ∨ d < 6) := by
  rw [(imageScore_sum d fig).1]
  unfold leadMinScore domDistanceScore hasFigureScore
  cases fig <;> simp <;> (repeat' split) <;> omega

/-- a figure element is always above the threshold, wherever it is -/
theorem figure_always_promotable (d : Nat) : imageScore d true > leadMinScore := (promotable_iff d true).mpr (Or.inl rfl)

example : imageScore 3 false = 25 ∧ imageScore 5 false = 15 ∧ imageScore 7 false = 5 ∧ imageScore 9 true = 15 := by decide +kernel

/-! ### non-vacuity: a concrete list that meets the hypotheses and exercises every clause -/

def sample : List Elem :=
  [ { kind := .image, node := 1 },                       -- before any text: dropped, lead candidate
    { kind := .text, content := false, win := [2] },
    { kind := .figure, node := 3 },                      -- after dropped text: lead candidate
    { kind := .text, content := true, win := [4] },
    { kind := .video, node := 5 },                       -- after kept text: kept
    { kind := .tagStart, name := "ul" },
    { kind := .text, content := false, win := [6] },
    { kind := .table, node := 7 },                       -- after dropped text: dropped
    { kind := .tagEnd, name := "ul" } ]

def sampleScore : Nat → Int := fun i => if i = 2 then 40 else 0

example : (docFilters sampleScore sample).map (·.map (·.content)) =
    some [false, false, true, true, true, false, false, false, false] := by decide +kernel

example : FreshMedia sample := by
  intro e he; simp [sample] at he
  rcases he with h | h | h | h | h | h | h | h | h <;> subst h <;> simp [Elem.isText]

end Distill.C08
