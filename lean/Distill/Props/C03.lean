/-
  C03 — A simple paragraph is kept or dropped as a whole.
-/
import Distill.Props.DomHelpers
import Distill.Proofs.SimplePara
import Distill.Props.FiltersProps
import Distill.Model.TextDoc
namespace Distill.C03
open Distill

/-- **A simple paragraph is never cut in the middle.**  For every converter mode, ancestors,
atoms that do not match attribute-free elements (`PlainAtoms`; checked against the real
regexps on every run), and every *reachable* builder state: while the paragraph's events are
processed, every Text element that is emitted either ends before the paragraph's first node or
contains all of the paragraph's nodes, and the pending window does not start inside the
paragraph.  So all of the paragraph's nodes end up in the window of one Text element. -/
theorem simple_para_one_text (cfg : CCfg) (A : CAtoms) (anc : List String) (hp : Bool)
    (pid : Nat) (pattrs : List Attr) (ks : List Node) (before : List BEv)
    (hk : plainInlineL ks = true) (hA : PlainAtoms A (allIdsL ks)) :
    let s := brun {} before
    let evs := convertNode cfg A anc hp (.elem pid "p" pattrs ks)
    let a := s.tb.nodes.length
    let s' := brun s evs
    s'.tb.nodes = s.tb.nodes ++ nodeIds evs ∧
    (∃ new, s'.out = s.out ++ new ∧
      ∀ e ∈ new, match e with
        | .text t => t.stop ≤ a ∨ (t.start ≤ a ∧ t.stop = a + (nodeIds evs).length)
        | _ => False) ∧
    (s'.tb.firstNode ≤ a ∨ s'.tb.firstNode = a + (nodeIds evs).length) :=
  simple_para_not_cut cfg A anc hp pid pattrs ks _ hk hA (BInv.run {} before BInv.init).first_le

/-- **One flag per Text.**  Whatever the classifier decides, it decides per block, and
`ApplyToModel` gives every Text element of a block the block's flag and title label: two Text
elements of the same block always agree. -/
theorem flag_per_block (blocks : List VBlock) (b : VBlock) (i j : Nat)
    (hfirst : blocks.find? (fun b => b.members.contains i) = some b)
    (hsame : blocks.find? (fun b => b.members.contains j) = some b) :
    flagOf blocks i = flagOf blocks j := by
  unfold flagOf; rw [hfirst, hsame]

/-- the iteration over children reads the next sibling before visiting:
regenerated statement list of `domutil.WalkNodes` -/
theorem walker_tie : Gen.walkNodesBody =
    ["if root == nil { return }",
     "visitChildren := false",
     "if fnVisit != nil { visitChildren = fnVisit(root) }",
     "if !visitChildren { return }",
     "for child := root.FirstChild; child != nil; { next := child.NextSibling WalkNodes(child, fnVisit, fnExit) child = next }",
     "if fnExit != nil { fnExit(root) }"] := by rfl

/-- `ApplyToModel` as it stands in the source: nothing for non-content blocks; otherwise every
Text of the block gets the flag, and TITLE if the block has it -/
theorem apply_to_model_tie : Gen.applyToModelBody =
    ["if !tb.isContent { return }",
     "for _, wt := range tb.TextElements { wt.SetIsContent(true) if tb.HasLabel(label.Title) { wt.AddLabel(label.Title) } }"] := by rfl

end Distill.C03
