/-
  C15 — Title comes from the page, is never invented, and is not repeated in content.
-/
import Distill.Gen.Tables
import Distill.Props.RenderProps  -- among this property's obligations (lean/obligations.json)
import Distill.Model.Title
import Distill.Props.FiltersProps -- among this property's obligations (lean/obligations.json)
import Distill.Gen.Funcs
import Distill.Proofs.Basics
namespace Distill.C15
open Distill

/-- the whitespace normalisation `getDocumentTitle` applies to its candidate (`TrimSpace`, then
`Fields` joined by one space) -/
def norm (s : List Char) : List Char := fieldsJoin (trimSpace s)

/-- **Markup title first.** -/
theorem markup_first (markup : List Char) (i : TitleIn) (h : markup ≠ []) : resultTitle markup i = markup := by
  unfold resultTitle
  cases markup with
  | nil => exact absurd rfl h
  | cons c cs => simp

theorem removeFinalPart_prefix (s : List Char) : removeFinalPart s <+: s := by
  unfold removeFinalPart; split
  · exact List.take_prefix ..
  · exact List.prefix_rfl

theorem removeFirstPart_suffix (s : List Char) : removeFirstPart s <:+ s := by
  unfold removeFirstPart; split
  · exact List.drop_suffix ..
  · exact List.suffix_rfl

theorem afterLastColon_suffix (s : List Char) : afterLastColon s <:+ s := by
  unfold afterLastColon; split
  · exact List.drop_suffix ..
  · exact List.suffix_rfl

theorem afterFirstColon_suffix (s : List Char) : afterFirstColon s <:+ s := by
  unfold afterFirstColon; split
  · exact List.drop_suffix ..
  · exact List.suffix_rfl

/-- the candidate of stage 1 is a prefix of the original title, a suffix of it, or the text of the
first h1 -/
theorem stage1_pieces (i : TitleIn) :
    (titleStage1 i).1 <+: i.orig ∨ (titleStage1 i).1 <:+ i.orig ∨ i.h1 = some (titleStage1 i).1 := by
  unfold titleStage1
  split
  · dsimp only; split
    · exact .inr (.inl (removeFirstPart_suffix _))
    · exact .inl (removeFinalPart_prefix _)
  · split
    · split
      · exact .inl List.prefix_rfl
      · split
        · exact .inr (.inl (afterFirstColon_suffix _))
        · dsimp only; split
          · exact .inl List.prefix_rfl
          · exact .inr (.inl (afterLastColon_suffix _))
    · split
      · cases i.h1 with
        | none => exact .inl List.prefix_rfl
        | some h => exact .inr (.inr rfl)
      · exact .inl List.prefix_rfl

/-- the last rule of `getDocumentTitle`: back to the original, or the normalised candidate -/
theorem documentTitle_cases (i : TitleIn) : documentTitle i = i.orig ∨ documentTitle i = norm (titleStage1 i).1 := by
  unfold documentTitle
  dsimp only
  split
  · exact .inl rfl
  · exact .inr rfl

/-- **Never invented.**  The document title is the original `<title>` text, or the
whitespace-normalised form of a contiguous part of it (a prefix or a suffix), or of the text
of the first `<h1>` — for every title string, heading and word-count outcome. -/
theorem never_invented (i : TitleIn) :
    documentTitle i = i.orig ∨
    (∃ piece, piece <:+: i.orig ∧ documentTitle i = norm piece) ∨
    (∃ h, i.h1 = some h ∧ documentTitle i = norm h) := by
  refine (documentTitle_cases i).imp_right fun hd => ?_
  rcases stage1_pieces i with h | h | h
  · exact .inl ⟨_, h.isInfix, hd⟩
  · exact .inl ⟨_, h.isInfix, hd⟩
  · exact .inr ⟨_, h, hd⟩

/-- **Exactly the title when it is plain**: 15 to 150 characters, no " sep " pattern and no
": " — the result is the `<title>` text itself or its whitespace-normalised form. -/
theorem exact_when_plain (i : TitleIn)
    (hs : hasSepIn titleSeps i.orig = false) (hc : hasColonSpace i.orig = false)
    (hlo : 15 ≤ i.orig.length) (hhi : i.orig.length ≤ 150) :
    documentTitle i = i.orig ∨ documentTitle i = norm i.orig := by
  have h1 : titleStage1 i = (i.orig, false) := by
    unfold titleStage1
    have : ¬ (i.orig.length > 150 ∨ i.orig.length < 15) := by omega
    simp [hs, hc, this]
  have h := documentTitle_cases i
  rwa [h1] at h

/-- ties: the normalised title itself is registered as a potential title,
a block whose normalised text is a potential title gets the TITLE label, every Text of a
labelled content block gets the label (`ApplyToModel`), and a Text carrying it renders as the
empty string in both views -/
theorem title_suppression_tie :
    Gen.processPotentialTitleBody = Gen.processPotentialTitleBodyExpected ∧
    Gen.processPotentialTitleBodyExpected.contains "f.potentialTitles[title] = struct{}{}" = true ∧
    Gen.documentTitleMatchProcessBody = Gen.documentTitleMatchProcessBodyExpected ∧
    Gen.textGenerateOutputBodyExpected.head? = some "if t.HasLabel(label.Title) { return \"\" }" ∧
    Gen.applyToModelBody = ["if !tb.isContent { return }",
      "for _, wt := range tb.TextElements { wt.SetIsContent(true) if tb.HasLabel(label.Title) { wt.AddLabel(label.Title) } }"] := by
  refine ⟨rfl, by simp [Gen.processPotentialTitleBodyExpected], rfl, rfl, rfl⟩

/-- the set of potential titles, abstractly: the normalised title plus whatever parts the
splitting heuristics add (an atom) -/
def potentialTitles (normTitle : String) (parts : List String) : List String := normTitle :: parts

/-- a block whose normalised text equals the normalised title is labelled, whatever the
heuristics add -/
theorem title_block_labelled (normTitle blockNorm : String) (parts : List String) (h : blockNorm = normTitle) :
    (potentialTitles normTitle parts).contains blockNorm = true := by
  subst h; simp [potentialTitles]

/-- `getDocumentTitle`, `ExtractTitle`, `ensureTitleInitialized` as they stand, and the five regular
expressions `Model/Title.lean` spells out (`hasSepIn`, `removeFinalPart`, `removeFirstPart`, …) -/
theorem title_heuristic_tie :
    Gen.titleBodies = Gen.titleBodiesExpected ∧
    Gen.modelledRegexps.lookup "internal/extractor.rxTitleSeparator" = some "(?i) [\\|\\-\\\\/>»] " ∧
    Gen.modelledRegexps.lookup "internal/extractor.rxTitleHierarchySep" = some "(?i) [\\\\/>»] " ∧
    Gen.modelledRegexps.lookup "internal/extractor.rxTitleRemoveFinalPart" = some "(?i)(.*)[\\|\\-\\\\/>»] .*" ∧
    Gen.modelledRegexps.lookup "internal/extractor.rxTitleRemove1stPart" = some "(?i)[^\\|\\-\\\\/>»]*[\\|\\-\\\\/>»](.*)" ∧
    Gen.modelledRegexps.lookup "internal/extractor.rxTitleAnySeparator" = some "(?i)[\\|\\-\\\\/>»]+" := by
  refine ⟨rfl, ?_⟩
  simp only [Gen.modelledRegexps, lookup_cons_ne, List.lookup_cons_self, ne_eq, String.reduceEq, not_false_eq_true,
    and_self]

/-! non-vacuity -/
example : documentTitle { orig := "An ordinary page title".toList, h1 := none, headingMatch := false } =
    "An ordinary page title".toList := by decide +kernel
example : documentTitle { orig := "Alpha Beta Gamma Delta - Section - Site".toList, h1 := none, headingMatch := false } =
    "Alpha Beta Gamma Delta - Section".toList := by decide +kernel

end Distill.C15
