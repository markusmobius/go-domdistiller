/-
  C05 — Distilled HTML is inert: no scripts, styles, handlers or id/class attributes.
-/
import Distill.Props.DomHelpers   -- its two ties are among this property's obligations (lean/obligations.json)
import Distill.Props.RenderProps
import Distill.Proofs.Render
import Distill.Gen.Funcs
namespace Distill.C05
open Distill

/-- **The allow list is safe** (kernel evaluation over the generated table): an attribute that
survives stripping is never an event handler, id, class, style or data-* attribute. -/
theorem allowed_safe : Gen.allowedAttributes.all (fun k => stripAlwaysKeys.contains k || safeKey k) = true :=
  Distill.allowed_safe

/-- id, class and style are in the generated "always strip" clause -/
theorem strip_identifying : ["id", "class", "style"].all stripAlwaysKeys.contains = true := by
  decide +kernel

/-- **Stripping reaches every element**: after `StripAttributes` every attribute of the root and
of every descendant element is safe — for every tree. -/
theorem strip_all_nodes (n : Node) : (stripNode n).allAttrsSafe = true := stripNode_safe n

/-- and it changes nothing else (same text nodes in the same order) -/
theorem strip_keeps_text (n : Node) : (stripNode n).textIds = n.textIds := stripNode_textIds n

/-- **Every kind strips**: each rendering path ends by stripping the root it serialises —
Text and cloned tables/captions (`CloneAndProcessList`), images, figures, videos, and the moved
embed element (after its script/style children are removed); tags are bare names.  These are the
statement lists of the rendering functions as they stand in the source. -/
theorem every_kind_strips :
    Gen.textGenerateOutputBody = Gen.textGenerateOutputBodyExpected ∧
    Gen.cloneAndProcessListBody = Gen.cloneAndProcessListBodyExpected ∧
    Gen.cloneAndProcessTreeBody = Gen.cloneAndProcessTreeBodyExpected ∧
    Gen.tableGenerateOutputBody = Gen.tableGenerateOutputBodyExpected ∧
    Gen.figureGenerateOutputBody = Gen.figureGenerateOutputBodyExpected ∧
    Gen.imageCloneAndProcessBody = Gen.imageCloneAndProcessBodyExpected ∧
    Gen.videoGenerateOutputBody = Gen.videoGenerateOutputBodyExpected ∧
    Gen.embedGenerateOutputBody = Gen.embedGenerateOutputBodyExpected ∧
    Gen.tagGenerateOutputBody = Gen.tagGenerateOutputBodyExpected := by
  refine ⟨rfl, rfl, rfl, rfl, rfl, rfl, rfl, rfl, rfl⟩

/-- each of those expectations contains the strip call as (one of) its last statements -/
theorem strip_call_present :
    Gen.textGenerateOutputBodyExpected.contains "domutil.StripAttributes(clonedRoot)" = true ∧
    Gen.cloneAndProcessListBodyExpected.contains "StripAttributes(clonedSubTree)" = true ∧
    Gen.figureGenerateOutputBodyExpected.contains "domutil.StripAttributes(figure)" = true ∧
    Gen.imageCloneAndProcessBodyExpected.contains "domutil.StripAttributes(cloned)" = true ∧
    Gen.videoGenerateOutputBodyExpected.contains "domutil.StripAttributes(vNode)" = true := by
  simp [Gen.textGenerateOutputBodyExpected, Gen.cloneAndProcessListBodyExpected, Gen.figureGenerateOutputBodyExpected,
    Gen.imageCloneAndProcessBodyExpected, Gen.videoGenerateOutputBodyExpected]

/-- script and style elements are never cloned into tables/captions, whatever the style
regexps answer (`GetOutputNodes` as modelled in Distill.Model.Render; its statement list is
tied by `get_output_nodes_tie` below) -/
theorem no_script_style_in_clones (A : CAtoms) (n : Node) :
    ∀ t ∈ outputTags A n, t ≠ "script" ∧ t ≠ "style" :=
  outputTags_no_script A n

theorem get_output_nodes_tie : Gen.getOutputNodesBody = Gen.getOutputNodesBodyExpected := by rfl

end Distill.C05
