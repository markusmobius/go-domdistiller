/-
  C09 — The views of one result agree: Text, HTML, ContentImages and WordCount.
-/
import Distill.Props.RenderProps
import Distill.Model.Words
import Distill.Props.FiltersProps
import Distill.Gen.Funcs
import Distill.Gen.Tables
import Distill.Proofs.Basics
namespace Distill.C09
open Distill

/-- statement lists of the rendering functions: Text, table and caption compute ONE processed
clone and return `InnerText(clone)` for the text view and its serialisation for the HTML view;
image, video, embed and tag have an empty text view; the document concatenates the content
elements in order for both views; ContentImages is read, in element order, from the same
processed image / figure / table clones -/
theorem views_same_tree_tie :
    Gen.textGenerateOutputBody = Gen.textGenerateOutputBodyExpected ∧
    Gen.tableGenerateOutputBody = Gen.tableGenerateOutputBodyExpected ∧
    Gen.figureGenerateOutputBody = Gen.figureGenerateOutputBodyExpected ∧
    Gen.imageGenerateOutputBody = Gen.imageGenerateOutputBodyExpected ∧
    Gen.documentGenerateOutputBody = Gen.documentGenerateOutputBodyExpected ∧
    Gen.documentGetImageURLsBody = Gen.documentGetImageURLsBodyExpected := by
  refine ⟨rfl, rfl, rfl, rfl, rfl, rfl⟩

theorem text_view_is_innerText_of_html_view :
    Gen.textGenerateOutputBodyExpected.contains "if textOnly { return domutil.InnerText(clonedRoot) }" = true ∧
    Gen.tableGenerateOutputBodyExpected.contains "if textOnly { return domutil.InnerText(t.cloned) }" = true ∧
    Gen.figureGenerateOutputBodyExpected.contains "if textOnly { return domutil.InnerText(figCaption) }" = true ∧
    Gen.imageGenerateOutputBodyExpected.contains "if textOnly { return \"\" }" = true := by
  simp [Gen.textGenerateOutputBodyExpected, Gen.tableGenerateOutputBodyExpected, Gen.figureGenerateOutputBodyExpected,
    Gen.imageGenerateOutputBodyExpected]

/-- the text view (`InnerText`: text not inside an element the visibility test rejects) of a
processed clone is, by definition of the model, the visible text of that same clone; and
processing (absolutise, strip) does not change which text nodes the clone has -/
theorem processed_same_text (abs absSet : String → String) (n : Node) :
    (processClone abs absSet n).textIds = n.textIds :=
  processClone_textIds abs absSet n

theorem countFrom_append_space (i h : Bool) (a b : List Char) :
    countFrom i h (a ++ ' ' :: b) = countFrom i h a + countWords b := by
  unfold countFrom
  fun_induction countFromW isWordChar i h a with
  | case1 i h hih | case2 i h hih =>
    have : isReWS ' ' = true := by decide
    simp [countFrom, countFromW, countWords, this, hih]
  | case3 i h c cs hc ih => rw [List.cons_append, countFromW, if_pos hc, ih, Nat.add_assoc]
  | case4 i h c cs hc ih => rw [List.cons_append, countFromW, if_neg hc, ih]

/-- **The counter is additive over space-separated pieces.** -/
theorem wordcount_additive (a b : List Char) :
    countWords (a ++ ' ' :: b) = countWords a + countWords b :=
  countFrom_append_space false false a b

theorem countWords_space_cons (a : List Char) : countWords (' ' :: a) = countWords a :=
  (wordcount_additive [] a).trans (Nat.zero_add _)

/-- `InnerText` pads every text node with spaces before concatenating, so the number of words
of the text view is the sum of the nodes' word counts — which is how the builder computes
`NumWords` (and `WordCount` sums `NumWords` over the content blocks). -/
theorem innerText_count (pieces : List (List Char)) :
    countWords (pieces.flatMap (fun d => ' ' :: d ++ [' '])) = (pieces.map countWords).sum := by
  induction pieces with
  | nil => rfl
  | cons d ds ih =>
    simp only [List.flatMap_cons, List.map_cons, List.sum_cons]
    have : (' ' :: d ++ [' ']) ++ List.flatMap (fun d => ' ' :: d ++ [' ']) ds =
        ' ' :: (d ++ ' ' :: List.flatMap (fun d => ' ' :: d ++ [' ']) ds) := by simp
    rw [this, countWords_space_cons, wordcount_additive, ih]

/-- whitespace-only and empty nodes count zero, so skipping them (as the builder does) is sound -/
theorem blank_counts_zero (d : List Char) (h : d.all isReWS = true) : countWords d = 0 := by
  unfold countWords countFrom
  induction d with
  | nil => rfl
  | cons c cs ih =>
    simp only [List.all_cons, Bool.and_eq_true] at h
    simp [countFromW, h.1, ih h.2]

/-- the three counters, their selection and the five regular expressions `Model/Words.lean` spells
out are the ones in the source -/
theorem word_counters_tie :
    Gen.wordCounterBodies = Gen.wordCounterBodiesExpected ∧
    Gen.modelledRegexps.lookup "internal/stringutil.rxFullWordCounter" = some "[\\x{3040}-\\x{A4CF}]" ∧
    Gen.modelledRegexps.lookup "internal/stringutil.rxLetterWordCounter" = some "[\\x{AC00}-\\x{D7AF}]" ∧
    Gen.modelledRegexps.lookup "internal/stringutil.rxWordMatcher1" = some "(\\S*[\\w\\x{00C0}-\\x{1FFF}\\x{AC00}-\\x{D7AF}]\\S*)" ∧
    Gen.modelledRegexps.lookup "internal/stringutil.rxWordMatcher2" = some "([\\x{3040}-\\x{A4CF}])" ∧
    Gen.modelledRegexps.lookup "internal/stringutil.rxWordMatcher3" = some "(\\S*[\\w\\x{00C0}-\\x{1FFF}]\\S*)" := by
  refine ⟨rfl, ?_⟩
  simp only [Gen.modelledRegexps, lookup_cons_ne, List.lookup_cons_self, ne_eq, String.reduceEq, not_false_eq_true,
    and_self]

theorem countFromW_congr {f g : Char → Bool} {s : List Char} (h : ∀ c ∈ s, f c = g c) (i w : Bool) :
    countFromW f i w s = countFromW g i w s := by
  induction s generalizing i w with
  | nil => rfl
  | cons c cs ih => simp only [countFromW, h c (by simp), ih fun x hx => h x (by simp [hx])]

/-- a text without kana / ideographs and without Hangul is counted by the fast counter, on which
the three counters agree anyway -/
theorem counters_agree_without_cjk (s : List Char) (h1 : s.any isCJK = false) (h2 : s.any isHangul = false) :
    selectCounter s = .fast ∧ countWordsLetter s = countWords s := by
  refine ⟨by simp [selectCounter, h1, h2], countFromW_congr (fun c hc => ?_) false false⟩
  simp [List.any_eq_false.mp h2 c hc]

example : countWords "one , two . w3 x_y".toList = 4 := by decide +kernel

end Distill.C09
