/-
  Property-level theorems about rendering, listed in `lean/obligations.json` under C01, C02, C04, C05,
  C06, C07, C09, C15, C19.  Up to the first heading: Text elements and the document
  (`Text.GenerateOutput`, `TreeClone`, `Document.GenerateOutput`; model: Distill.Model.TextRender,
  executed against the real functions in the correspondence stages `textrender` and `docoutput`).
-/
import Distill.Proofs.TextRender
import Distill.Proofs.MediaRender
import Distill.Proofs.ImageExtract
import Distill.Gen.Funcs
import Distill.Gen.Tables
import Distill.Proofs.Basics
namespace Distill.RenderProps
open Distill

/-- the functions the model follows are the ones in the source (regenerated statement lists) -/
theorem source_tie : Gen.textRenderBodies = Gen.textRenderBodiesExpected := by rfl

/-- the two regular expressions of `InnerText` that `Model/TextRender.lean` spells out (`fixPunct`,
`fixNewline`) are the ones in the source -/
theorem innertext_regexps_tie :
    Gen.modelledRegexps.lookup "internal/domutil.rxPunctuation" = some "\\s+([.?!,;])\\s*(\\S*)" ∧
    Gen.modelledRegexps.lookup "internal/domutil.rxTempNewline" = some "\\s*\\|\\\\/\\|\\s*" := by
  simp only [Gen.modelledRegexps, lookup_cons_ne, List.lookup_cons_self, ne_eq, String.reduceEq, not_false_eq_true,
    and_self]

/-- **C02 (rendering half).** `TreeClone` neither invents, duplicates nor reorders: the clone's
text nodes are the listed text nodes of the converter's tree, in document order. -/
theorem tree_clone_excerpt (ids : List Nat) (top : Node) (anc : List Shell) (c : Node)
    (h : treeClone ids top = some (anc, c)) :
    c.textIds = top.textIds.filter (fun i => ids.contains i) :=
  treeClone_textIds ids top anc c h

/-- **C02 (rendering half).** The processed clone `Text.GenerateOutput` serialises holds exactly
the window's text nodes, in document order — for every tree, window, display atoms and URL
resolvers (root other than `body`; for `body` see `body_step_keeps_characters`). -/
theorem text_render_excerpt (A : CAtoms) (abs absSet : String → String) (ids : List Nat) (top : Node)
    (anc : List Shell) (r0 out : Node)
    (hv : ∀ anc0 c, treeClone ids top = some (anc0, c) → NoVoid anc0)
    (hs : textCloneStart ids top = some (anc, r0)) (hb : r0.tag ≠ "body")
    (h : textClone A abs absSet ids top = some out) :
    out.textIds = top.textIds.filter (fun i => ids.contains i) := by
  obtain ⟨anc0, c, ht, hk⟩ := textClone_textIds A abs absSet ids top anc r0 out hs hb h
  exact hk.eq (hv anc0 c ht)

/-- … and without the premise `hv` (no ancestor of the window is named like a void HTML element — in
the HTML namespace the parser gives such elements no children, so only SVG / MathML elements such as
`<math><wbr>text` can break it; `dom.AppendChild` then refuses to put the clone into the ancestor's copy
and the implementation loses that text from both views, as the model does): the clone never holds a
text node from outside the window, none twice, none out of order. -/
theorem text_render_never_adds (A : CAtoms) (abs absSet : String → String) (ids : List Nat) (top : Node)
    (anc : List Shell) (r0 out : Node)
    (hs : textCloneStart ids top = some (anc, r0)) (hb : r0.tag ≠ "body")
    (h : textClone A abs absSet ids top = some out) :
    out.textIds.Sublist (top.textIds.filter (fun i => ids.contains i)) := by
  obtain ⟨_, _, _, hk⟩ := textClone_textIds A abs absSet ids top anc r0 out hs hb h
  exact hk.sublist

theorem body_step_keeps_characters (i : Nat) (attrs : List Attr) (ks : List Node) :
    ∃ ks', bodyToDiv (.elem i "body" attrs ks) = .elem synthDivId "div" [] (trimLastText (trimFirstText ks')) ∧
      textDataL ks' = textDataL ks :=
  ⟨mergeTexts (mergeDeepL ks), rfl, by rw [mergeTexts_textData, mergeDeepL_textData]⟩

/-- **C01.** `Text.GenerateOutput` never dereferences nil and its climbing loop terminates (it is
structural recursion over the source ancestors): for a converter tree rooted at an element and a
window that names a node of it, the model returns a clone. -/
theorem text_render_total (A : CAtoms) (abs absSet : String → String) (ids : List Nat) (top : Node)
    (j : Nat) (hj : ids.contains j = true) (hin : top.hasId j = true) (htop : top.isElem = true) :
    (textClone A abs absSet ids top).isSome = true := by
  obtain ⟨anc, c, ht, h⟩ := treeClone_total ids top j hj hin htop
  simp only [textClone_eq, Option.isSome_map, textCloneStart, ht]
  rcases h with h | h
  · simp [h]
  · cases anc with
    | nil => exact absurd rfl h
    | cons s rest => split <;> rfl

/-- **C05.** Every attribute of every element of the clone a Text element serialises — including
the shallow clones of source ancestors the climbing loop wraps around it — is allow-listed and
neither an event handler nor id / class / style / data-*. -/
theorem text_render_attrs_safe (A : CAtoms) (abs absSet : String → String) (ids : List Nat) (top out : Node)
    (h : textClone A abs absSet ids top = some out) : out.allAttrsSafe = true := by
  obtain ⟨m, rfl⟩ := textClone_eq_some h
  exact stripNode_safe _

/-- **C06.** In that clone every a[href], video[poster], src and srcset — again including the
wrapped ancestors — is empty or an image of the resolver. -/
theorem text_render_urls_abs (A : CAtoms) (abs absSet : String → String) (ids : List Nat) (top out : Node)
    (h : textClone A abs absSet ids top = some out) : out.allUrlsAbs abs absSet := by
  obtain ⟨m, rfl⟩ := textClone_eq_some h
  exact processClone_abs abs absSet m

/-- **C02 / C09.** `Document.GenerateOutput`: both views are the concatenation, in element-list
order, of the renderings of the same content elements. -/
theorem doc_output_spec (textOnly : Bool) (es : List OutEl) :
    docOutput textOnly es =
      ((es.filter (·.content)).map (fun e => if textOnly then e.text ++ ['\n'] else e.html)).flatten := by
  induction es with
  | nil => rfl
  | cons e es ih => by_cases h : e.content = true <;> simp [List.filter, h, docOutput, ih]

theorem doc_output_append (textOnly : Bool) (a b : List OutEl) :
    docOutput textOnly (a ++ b) = docOutput textOnly a ++ docOutput textOnly b := by
  simp [doc_output_spec]

/-- **C07.** A Text whose clone is rooted at a nestable element (ul/ol/li/blockquote/pre) emits
the inner HTML only: the wrapper itself comes from the surrounding placeholder tags, so it is not
duplicated. -/
theorem nestable_root_emits_inner (A : CAtoms) (abs absSet : String → String) (ids : List Nat) (top r : Node)
    (h : textClone A abs absSet ids top = some r) (hn : nestableTag r.tag = true) :
    textOutput A abs absSet false false ids top = some (innerHTML r) := by
  simp [textOutput, h, hn]

theorem non_nestable_root_emits_outer (A : CAtoms) (abs absSet : String → String) (ids : List Nat) (top r : Node)
    (h : textClone A abs absSet ids top = some r) (hn : nestableTag r.tag = false) :
    textOutput A abs absSet false false ids top = some (outerHTML r) := by
  simp [textOutput, h, hn]

/-- **C07.** The climbing loop never wraps an element that is kept by a pair of tags, whatever
display its inline style claims: such a root is returned as it is, so (by
`nestable_root_emits_inner`) only its inner HTML is emitted and the element is not duplicated. -/
theorem climb_stops_at_nestable (A : CAtoms) (root : Node) (anc : List Shell) (h : nestableTag root.tag = true) :
    climb A root anc = root := by
  cases anc with
  | nil => rfl
  | cons s rest => simp only [climb, h, if_true, ite_self]

/-- **C15.** a Text carrying the TITLE label renders as nothing in both views -/
theorem title_text_renders_empty (A : CAtoms) (abs absSet : String → String) (textOnly : Bool) (ids : List Nat) (top : Node) :
    textOutput A abs absSet true textOnly ids top = some [] := by
  simp [textOutput]

/-! ## the other element kinds (model: Distill.Model.MediaRender, stage `mediarender`) -/

theorem media_source_tie : Gen.mediaRenderBodies = Gen.mediaRenderBodiesExpected := by rfl

/-- **C05.** Every attribute in the serialised tree of an image, a figure (image and caption), a
video and a data table is allow-listed and neither an event handler nor id/class/style/data-*. -/
theorem media_attrs_safe (A : CAtoms) (abs absSet : String → String) (el caption : Node) :
    (imageClone abs absSet el).allAttrsSafe = true ∧
    (videoTree abs absSet el).allAttrsSafe = true ∧
    (∀ f, figureTree A abs absSet el caption = some f → f.allAttrsSafe = true) ∧
    (∀ c, cloneAndProcessTree A abs absSet el = some c → c.allAttrsSafe = true) :=
  ⟨stripNode_safe _, stripNode_safe _,
   fun f h => by obtain ⟨m, rfl⟩ := figureTree_eq_some h; exact stripNode_safe m,
   fun c h => by obtain ⟨_, c0, _, rfl⟩ := cloneAndProcessTree_eq_some h; exact stripNode_safe _⟩

/-- **C05.** An embed placeholder: the wrapper carries exactly the three markers the distiller
writes; below it every attribute is safe and no script or style element survives. -/
theorem embed_placeholder_inert (A : CAtoms) (type id : String) (el : Node) :
    (embedTree A type id el).attrs = [⟨"class", "embed-placeholder"⟩, ⟨"data-type", type⟩, ⟨"data-id", id⟩] ∧
    (embedTree A type id el).tag = "div" ∧
    allAttrsSafeL (embedTree A type id el).kids = true ∧
    (∀ k ∈ (embedTree A type id el).kids,
      (k.tag = "blockquote" ∨ k.tag = "iframe") ∧ ∀ t ∈ tagsL k.kids, t ≠ "script" ∧ t ≠ "style") :=
  ⟨rfl, rfl, embedKids_safe A el, embedKids_no_script A el⟩

/-- **C05.** SVG / MathML elements that carry the name of an HTML raw text element (their character
data would be serialised unescaped and come back as markup) are neither collected into table and
caption clones nor left below an embedded element. -/
theorem foreign_raw_text_kept_out (A : CAtoms) (i : Nat) (t : String) (attrs : List Attr) (ks : List Node)
    (h : A.foreignRaw i = true) :
    outputIds A (.elem i t attrs ks) = [] ∧
    ∀ el, ∀ j ∈ elemIdsL (dropScriptStyle A el).kids, A.foreignRaw j = false := by
  refine ⟨outputIds_hidden A i t attrs ks (Or.inr (Or.inr (Or.inr h))), fun el j hj => ?_⟩
  rw [elemIdsL_eq_map_elems] at hj
  obtain ⟨e, he, rfl⟩ := List.mem_map.mp hj
  exact (Bool.or_eq_false_iff.mp (dropScriptStyle_kids_clean A el e he)).2

/-- **C06.** Image and video clones: every `src` of img/source/track/video and every `srcset` is
empty or an image of the resolver, the video's own poster too; table and caption clones: all four
URL-bearing attributes. -/
theorem media_urls_abs (A : CAtoms) (abs absSet : String → String) (el : Node) :
    (imageClone abs absSet el).allSrcAbs abs absSet ∧
    (videoTree abs absSet el).allSrcAbs abs absSet ∧
    (∀ a ∈ posterAbs abs el.attrs, a.key = "poster" → IsImg abs a.val) ∧
    (∀ c, cloneAndProcessTree A abs absSet el = some c → c.allUrlsAbs abs absSet) :=
  ⟨stripNode_srcAbs abs absSet _ (absSrcNode_abs abs absSet _),
   stripNode_srcAbs abs absSet _ (absSrcNode_abs abs absSet _), posterAbs_spec abs el.attrs,
   fun c h => by obtain ⟨_, c0, _, rfl⟩ := cloneAndProcessTree_eq_some h; exact processClone_abs abs absSet c0⟩

/-- **C04.** A table / caption clone holds only text nodes `GetOutputNodes` collected, and nothing
below an element the visibility test rejects, or below script / style, is collected. -/
theorem table_clone_visible_only (A : CAtoms) (abs absSet : String → String) (root c : Node)
    (h : cloneAndProcessTree A abs absSet root = some c) :
    c.textIds = root.textIds.filter (fun i => (outputIds A root).contains i) := by
  obtain ⟨anc, c0, ht, rfl⟩ := cloneAndProcessTree_eq_some h
  rw [processClone_textIds]
  exact treeClone_textIds _ root anc c0 ht

theorem hidden_not_collected (A : CAtoms) (i : Nat) (t : String) (attrs : List Attr) (ks : List Node)
    (h : visible A i t attrs = false ∨ t = "script" ∨ t = "style") :
    outputIds A (.elem i t attrs ks) = [] :=
  outputIds_hidden A i t attrs ks (by rcases h with h | h | h <;> simp [h])

/-- **C09.** What an image / figure contributes to ContentImages is, in document order, src and
srcset URLs of elements of the very clone its HTML view serialises; likewise for a table (`img` and
`source` being void elements); the document concatenates the lists of its content elements. -/
theorem image_urls_from_clone (abs absSet : String → String) (setURLs : String → List String) (el : Node) :
    (imageURLs abs absSet setURLs el).Sublist ((imageClone abs absSet el).imageCands setURLs) := by
  unfold imageURLs
  cases imageClone abs absSet el with
  | elem i t attrs ks =>
    simp only [imageURLsOf, Node.attrs, allSrcSetURLs, Node.imageCands, List.append_assoc]
    exact ((allSrcSetURLsL_sublist setURLs ks).append_left _).append_left _
  | _ => simp [imageURLsOf, Node.attrs, getAttr, allSrcSetURLs, Node.imageCands]

theorem table_urls_from_clone (A : CAtoms) (abs absSet : String → String) (setURLs : String → List String)
    (table c : Node) (h : cloneAndProcessTree A abs absSet table = some c) (hv : voidLeavesL c.kids) :
    (tableImageURLs A abs absSet setURLs table).Sublist (imageCandsL setURLs c.kids) := by
  simp only [tableImageURLs, h]
  exact tableImageURLsBelow_sublist setURLs c.kids hv

theorem doc_image_urls_spec (es : List (Bool × List String)) :
    docImageURLs es = ((es.filter (·.1)).map (·.2)).flatten := by
  fun_induction docImageURLs es with
  | case1 => rfl
  | case2 c us rest ih => cases c <;> simp [List.filter, ih]

/-! ## the image extractor (model: Distill.Model.ImageExtract, stage `imageextract`) -/

theorem image_extract_tie : Gen.imageExtractBodies = Gen.imageExtractBodiesExpected := by rfl

/-- **C02 / C04.** What the extractor leaves of a `<picture>`: every element below it is an `img` or
a `source`, and its direct children are elements only — no stray text, no comment — so nothing of
the page's text or comments travels with the image clone. -/
theorem picture_reduced (i : Nat) (t : String) (a : List Attr) (ks : List Node) :
    (∀ x ∈ tagsL (Img.processPicture (.elem i t a ks)).kids, x = "img" ∨ x = "source") ∧
    (∀ k ∈ (Img.processPicture (.elem i t a ks)).kids, k.isElem = true) := by
  have tags : ∀ y ∈ tagsL ((Img.onlyImgSource ks).filter (·.isElem)), y = "img" ∨ y = "source" :=
    fun y hy => Img.onlyImgSource_tags ks y ((tagsL_sublist List.filter_sublist).subset hy)
  have elems : ∀ k ∈ (Img.onlyImgSource ks).filter (·.isElem), k.isElem = true :=
    fun k hk => (List.mem_filter.mp hk).2
  -- renaming the first `source` to `img` keeps both
  rcases Img.processPicture_kids i t a ks with h | h <;> rw [h]
  · exact ⟨tags, elems⟩
  · exact ⟨fun x hx => (Img.renameFirstSourceL_tags _ x hx).elim Or.inl (tags x),
      List.all_eq_true.mp ((Img.renameFirstSourceL_isElem _).trans (List.all_eq_true.mpr elems))⟩

/-- **C04.** The caption taken from a figure is a `figcaption` the visibility test accepts, and
nothing below a rejected element is ever taken; a caption the extractor creates holds one text
node with the visible text of its base. -/
theorem figure_caption_visible (A : CAtoms) (ks : List Node) (c : Node) (h : Img.visibleCaptionL A ks = some c) :
    c.tag = "figcaption" ∧ visible A c.id c.tag c.attrs = true :=
  Img.visibleCaptionL_spec A ks c h

theorem hidden_caption_ignored (A : CAtoms) (i : Nat) (t : String) (a : List Attr) (ks : List Node)
    (h : visible A i t a = false) : Img.visibleCaption A (.elem i t a ks) = none := by
  simp [Img.visibleCaption, h]

theorem created_caption_shape (A : CAtoms) (base : Node) :
    ∃ d, Img.createCaption A base = .elem Img.synthCaptionId "figcaption" [] [.text Img.synthCaptionTextId d] :=
  ⟨_, rfl⟩

/-! non-vacuity -/
example : (Img.processPicture (.elem 0 "picture" [] [.text 1 "stray", .other 2 4, .elem 3 "span" [] [.text 4 "x"],
    .elem 5 "source" [⟨"srcset", "a.webp 1x"⟩] []])).kids.map Node.tag = ["img"] := by
  simp [Img.processPicture, Img.onlyImgSource, Img.countTagL, Img.countTag, Img.renameFirstSourceL,
    Img.renameFirstSource, Node.kids, Node.isElem, Node.tag]

def exPicture : Node :=
  .elem 0 "picture" [⟨"class", "c"⟩] [.elem 1 "source" [⟨"srcset", "a.webp 1x"⟩, ⟨"onload", "x()"⟩] [],
                                      .elem 2 "img" [⟨"src", "b.jpg"⟩, ⟨"srcset", "c.jpg 2x"⟩, ⟨"id", "i"⟩] []]
example : String.ofList (imageOutput (fun s => "http://e/" ++ s) (fun s => "S(" ++ s ++ ")") false exPicture) =
    "<picture><source srcset=\"S(a.webp 1x)\"/><img src=\"http://e/http://e/b.jpg\" srcset=\"S(c.jpg 2x)\"/></picture>" := by
  -- compared as character lists: deciding the equation between the strings goes through their UTF-8 bytes
  apply congrArg String.ofList
  decide +kernel
example : imageURLs id id (fun s => [s]) exPicture = ["a.webp 1x", "c.jpg 2x"] := by decide +kernel
example : String.ofList (embedOutput
    { styleDisplay := fun _ => "", visHidden := fun _ => false, byline := fun _ => false, rxUnlikely := fun _ => false,
      rxMaybe := fun _ => false, embed := fun _ => .none, dataTable := fun _ => false, blank := fun _ => false, words := fun _ => 0 }
    false "twitter" "55"
    (.elem 0 "blockquote" [⟨"class", "twitter-tweet"⟩] [.elem 1 "p" [] [.text 2 "w"], .elem 3 "script" [⟨"src", "x.js"⟩] []])) =
    "<div class=\"embed-placeholder\" data-type=\"twitter\" data-id=\"55\"><blockquote><p>w</p></blockquote></div>" := by
  apply congrArg String.ofList
  decide +kernel

/-! non-vacuity: a link inside an inline element inside a heading; the window is the single text
node, the clone climbs `em → a → h2`, the link is resolved and `id`/`onclick` are gone -/
def exTop : Node :=
  .elem 0 "div" [] [.elem 1 "h2" [⟨"id", "x"⟩] [.elem 2 "a" [⟨"href", "s.html"⟩, ⟨"onclick", "f()"⟩] [.elem 3 "em" [] [.text 4 "w1 w2"]]],
                    .elem 5 "p" [] [.text 6 "w3"]]
def exAtoms : CAtoms :=
  { styleDisplay := fun _ => "", visHidden := fun _ => false, byline := fun _ => false, rxUnlikely := fun _ => false,
    rxMaybe := fun _ => false, embed := fun _ => .none, dataTable := fun _ => false, blank := fun _ => false, words := fun _ => 0 }

example : (textOutput exAtoms (fun s => "http://e/" ++ s) id false false [4] exTop).map String.ofList =
    some "<h2><a href=\"http://e/s.html\"><em>w1 w2</em></a></h2>" := by
  refine congrArg (Option.map String.ofList) (?_ : _ = some _)
  decide +kernel
example : (textOutput exAtoms (fun s => "http://e/" ++ s) id false true [4] exTop).map String.ofList = some "w1 w2" := by
  decide +kernel
example : (textClone exAtoms id id [4] exTop).isSome = true ∧ exTop.hasId 4 = true := by decide +kernel

end Distill.RenderProps
