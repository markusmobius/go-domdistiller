/-
  C07 — Retained text keeps its list/quote/pre nesting; data tables are kept whole.
-/
import Distill.Props.RenderProps
import Distill.Proofs.Convert
import Distill.Proofs.Retainer
namespace Distill.C07
open Distill

/-- the five nestable tags, from the generated `CanBeNested` switch -/
theorem nestable_tie :
    Gen.nestableCases = [(["ul", "ol", "li", "blockquote", "pre"], "return true"), ([], "return false")] := by rfl

/-- **Placeholders are balanced**: for every tree, mode and atoms, the start/end placeholders
the converter emits form a properly nested sequence in which each start is closed by an end
of the same name. -/
theorem emit_balanced (cfg : CCfg) (A : CAtoms) (anc : List String) (hp : Bool) (n : Node) :
    tagRun [] (convert cfg A anc hp n) = some [] :=
  convertNode_balanced cfg A anc hp n []

/-- **A text element never spans a placeholder**: `AddTag` flushes the pending text first, so
every Text element lies entirely between two consecutive placeholders (its nodes all have the
same chain of nestable ancestors). Formally: the builder appends the placeholder after
whatever Text the flush produced, and nothing else. -/
theorem addTag_flushes (s : BSt) (n : String) (st : Bool) :
    (bstep s (.addTag n st)).out = s.flushBlock.out ++ [.tag n st] ∧
    (bstep s (.addTag n st)).tb.firstNode = s.flushBlock.tb.firstNode :=
  ⟨rfl, rfl⟩

/-- after a flush nothing is pending: the next Text starts at the current end of the node list -/
theorem flushBlock_nothing_pending (s : BSt) (h : BInv s) :
    s.flushBlock.tb.firstNode = s.flushBlock.tb.nodes.length ∨
    (s.tb.firstNode = s.tb.nodes.length ∧ s.flushBlock = s) := by
  rcases flushBlock_cases s with h0 | ⟨_, h | ⟨t, h, _⟩⟩
  · exact .inr h0
  · rw [h]; exact .inl rfl
  · rw [h]; exact .inl rfl

/-- **Retainer**: on every well-nested element list the retainer never underflows its stack, and the
assignments it performs are exactly `postL`: each placeholder pair is finally flagged with "some
content element lies inside it". -/
theorem retainer_spec (ts : List RT) :
    ∃ s', rrun {} (RT.flatL ts) = some (s', RT.postL false ts) :=
  ⟨_, RT.runL_spec ts {} (by simp [RInv])⟩

theorem retainer_final_flags (ts : List RT) (i j : Nat) (c : Bool)
    (hnd : (RT.idxL ts).Nodup) (hp : RT.hasPairL i j c ts) :
    finalFlag i (RT.postL false ts) = some c ∧ finalFlag j (RT.postL false ts) = some c :=
  RT.finalL_spec i j c ts false hnd hp

/-- a nested pair's content makes every enclosing pair content too (nested lists stay nested) -/
theorem enclosing_pair_retained (i j : Nat) (ks : List RT) (h : RT.hasCL ks = true) :
    (RT.pair i j ks).hasC = true := by
  simpa [RT.hasC] using h

end Distill.C07
