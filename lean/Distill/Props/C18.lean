/-
  C18 — Tables are classified by the documented rule cascade.

  `Gen.classify` is regenerated from `tableclass.Classifier.Classify` on every run (ordered
  guards with the thresholds as they stand in the source); `classifySpec` is the cascade as
  the property words it.  `cascade_eq` says they agree on *every* feature vector.
-/
import Distill.Model.TableClass
import Distill.Gen.Funcs
namespace Distill.C18
open Distill

/-- the generated tables are the ones the spec names -/
theorem role_tables : Gen.ariaRoles = ariaLandmarkRoles ∧ Gen.ariaTableRoles = ariaGridRoles := by
  constructor <;> rfl

theorem goReturn_cons (f : TableFeatures) (r : TRule) (rs : List TRule) :
    goReturn (firstRule f (r :: rs)) =
      if r.guard f then goReturn (r.verdict, r.reason) else goReturn (firstRule f rs) := by
  simp only [firstRule]; split <;> rfl

/-- **C18 main statement**: for every feature vector the translated source cascade returns
exactly what the documented cascade returns (verdict and reason). -/
theorem cascade_eq (f : TableFeatures) : Gen.classify f = some (some (goReturn (classifySpec f))) := by
  -- `goReturn_cons` pushes `goReturn` through the rule list, so both sides become the same chain of `if`s
  -- over the guards; then the remaining `firstRule [] = default` and the `some` outside the `if`s
  simp only [Gen.classify, classifySpec, tableRules, goReturn_cons, role_tables.1, role_tables.2]
  simp only [firstRule, goReturn]
  simp only [apply_ite some]

theorem firstRule_eq_find (f : TableFeatures) (rs : List TRule) :
    firstRule f rs = ((rs.find? (·.guard f)).map fun r => (r.verdict, r.reason)).getD (.data, "Default") := by
  fun_induction firstRule f rs <;> simp [*]

/-- the cascade is first-match: a rule decides exactly when its guard holds and no earlier
guard does (this is what pins the *order*) -/
theorem firstRule_spec (f : TableFeatures) (pre : List TRule) (r : TRule) (post : List TRule)
    (hpre : ∀ q ∈ pre, q.guard f = false) (hr : r.guard f = true) :
    firstRule f (pre ++ r :: post) = (r.verdict, r.reason) := by
  have h : (pre ++ r :: post).find? (·.guard f) = some r :=
    List.find?_eq_some_iff_append.mpr ⟨hr, pre, post, rfl, fun q hq => by simp [hpre q hq]⟩
  rw [firstRule_eq_find, h]; rfl

theorem default_data (f : TableFeatures) (h : ∀ q ∈ tableRules, q.guard f = false) :
    classifySpec f = (.data, "Default") := by
  rw [classifySpec, firstRule_eq_find, List.find?_eq_none.mpr fun q hq => by simp [h q hq]]
  rfl

/-- the same table is classified the same way wherever it occurs: the context enters only
through the editable-ancestor test -/
theorem context_free (anc₁ anc₂ : List (String × String)) (vt : Nat → Bool) (t : Node)
    (h : (anc₁.any fun p => p.1 == "input" || asciiLower p.2 == "true") =
         (anc₂.any fun p => p.1 == "input" || asciiLower p.2 == "true")) :
    tableFeatures anc₁ vt t = tableFeatures anc₂ vt t := by
  unfold tableFeatures
  simp only [h]

/-! examples at the boundaries (the thresholds are literals in the translated source) -/

def plain : TableFeatures :=
  { insideEditable := false, role := "", descRole := false, datatable := "", nested := false,
    rows := 2, cols := 2, captionValid := false, thead := false, tfoot := false, headerTag := false,
    cellAttr := false, cellLoneAbbr := false, summary := false, cells := 4, objectTag := false }

example : Gen.classify { plain with cols := 4, cells := 8 } = some (some ("Layout", "LessEq10Cells")) := by decide +kernel
example : Gen.classify { plain with cols := 5, cells := 10 } = some (some ("Data", "MoreEq5Cols")) := by decide +kernel
example : Gen.classify { plain with rows := 19, cells := 38 } = some (some ("Data", "Default")) := by decide +kernel
example : Gen.classify { plain with rows := 20, cells := 40 } = some (some ("Data", "MoreEq20Rows")) := by decide +kernel
example : Gen.classify { plain with rows := 5, cells := 10 } = some (some ("Layout", "LessEq10Cells")) := by decide +kernel
example : Gen.classify { plain with rows := 6, cols := 2, cells := 11 } = some (some ("Data", "Default")) := by decide +kernel
example : Gen.classify { plain with rows := 1, thead := true } = some (some ("Layout", "LessEq1Row")) := by decide +kernel
example : Gen.classify { plain with cols := 1, summary := true } = some (some ("Layout", "LessEq1Col")) := by decide +kernel
example : Gen.classify { plain with datatable := "0", descRole := true } = some (some ("Data", "RoleDescendant")) := by decide +kernel
example : Gen.classify { plain with datatable := "0", role := "grid" } = some (some ("Data", "RoleTable")) := by decide +kernel
example : Gen.classify { plain with insideEditable := true, role := "grid" } = some (some ("Layout", "InsideEditableArea")) := by decide +kernel
example : Gen.classify { plain with cells := 12, rows := 6, objectTag := true } = some (some ("Layout", "EmbedObjectAppletIframe")) := by decide +kernel

/-- the counting and text helpers of the classifier as they stand (every `tr` of the table is
visited; the column count is the maximum over all of them) -/
theorem table_count_bodies_tie : Gen.tableCountBodies = Gen.tableCountBodiesExpected := by rfl

theorem le_foldl_max (xs : List Int) : ∀ a x, x ≤ a ∨ x ∈ xs → x ≤ xs.foldl (fun a b => if b > a then b else a) a := by
  induction xs with
  | nil => exact fun a x h => h.elim id (nomatch ·)
  | cons y ys ih =>
    intro a x h
    refine ih (if y > a then y else a) x ?_
    rcases h with h | h
    · exact .inl (by omega)
    · exact (List.mem_cons.mp h).imp (fun h => by omega) id

/-- **The column count is the maximum over ALL rows**: no row of the table, wherever it stands and
however many rows there are, has more columns than the count the cascade compares with its
thresholds. -/
theorem cols_cover_every_row (xs : List Int) (x : Int) (hx : x ∈ xs) : x ≤ maxInt xs :=
  le_foldl_max xs 0 x (.inr hx)

/-- … also when other rows come first -/
theorem cols_cover_append (xs ys : List Int) (x : Int) (hx : x ∈ ys) : x ≤ maxInt (xs ++ ys) :=
  cols_cover_every_row (xs ++ ys) x (by simp [hx])

example : maxInt [1, 1, 1, 3, 1] = 3 ∧ maxInt [] = 0 := by decide +kernel

end Distill.C18
