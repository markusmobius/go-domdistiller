import Distill.Props.C14
#print axioms Distill.C14.accessor_order_tie
#print axioms Distill.C14.getter_shapes_tie
#print axioms Distill.C14.markup_info_tie
#print axioms Distill.C14.og_gate
#print axioms Distill.C14.field_precedence
#print axioms Distill.C14.field_empty
#print axioms Distill.C14.combine_fields
#print axioms Distill.C14.article_wholesale
#print axioms Distill.C14.optout_empty
#print axioms Distill.C14.sources_order
#print axioms Distill.C14.ie_reader_tie
#print axioms Distill.C14.optout_tag_anywhere
#print axioms Distill.C14.page_optout_empties
#print axioms Distill.C14.page_without_tag_no_optout
#print axioms Distill.C14.open_graph_tie
#print axioms Distill.C14.page_og_gate
#print axioms Distill.C14.og_last_value_wins
#print axioms Distill.C14.article_tag_after_type_counts
#print axioms Distill.C14.article_tag_before_type_dropped
#print axioms Distill.C14.og_no_optout
#print axioms Distill.C14.schema_org_tie
#print axioms Distill.C14.schema_tables_tie
#print axioms Distill.C14.schema_type_complete
#print axioms Distill.C14.page_sources_order
#print axioms Distill.C14.page_markup_optout
#print axioms Distill.C14.only_ie_opts_out
