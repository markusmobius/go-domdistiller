import Distill.Props.C15
#print axioms Distill.C15.markup_first
#print axioms Distill.C15.never_invented
#print axioms Distill.C15.exact_when_plain
#print axioms Distill.C15.stage1_pieces
#print axioms Distill.C15.title_suppression_tie
#print axioms Distill.C15.title_block_labelled
#print axioms Distill.FltProps.title_block_labelled
#print axioms Distill.FltProps.source_tie
#print axioms Distill.RenderProps.title_text_renders_empty
#print axioms Distill.C15.title_heuristic_tie
