import Distill.Props.C03
#print axioms Distill.C03.simple_para_one_text
#print axioms Distill.C03.flag_per_block
#print axioms Distill.C03.walker_tie
#print axioms Distill.C03.apply_to_model_tie
#print axioms Distill.simple_para_not_cut
#print axioms Distill.FltProps.initial_block_all_or_nothing
#print axioms Distill.FltProps.source_tie
#print axioms Distill.DomHelpers.dom_helpers_tie
#print axioms Distill.DomHelpers.clone_unbounded
