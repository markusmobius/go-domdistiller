import Distill.Props.C08
#print axioms Distill.C08.media_iff
#print axioms Distill.C08.retainer_touches_tags_only
#print axioms Distill.C08.lead_at_most_one
#print axioms Distill.relevantGo_eq_spec
#print axioms Distill.leadImage_spec
#print axioms Distill.C08.relevantStep_tie
#print axioms Distill.C08.leadMinScore_tie
#print axioms Distill.C08.lead_image_bodies_tie
#print axioms Distill.C08.lead_heuristics_tie
#print axioms Distill.C08.imageScore_sum
#print axioms Distill.C08.promotable_iff
#print axioms Distill.C08.figure_always_promotable
