import Distill.Props.C05
#print axioms Distill.C05.allowed_safe
#print axioms Distill.C05.strip_identifying
#print axioms Distill.C05.strip_all_nodes
#print axioms Distill.C05.strip_keeps_text
#print axioms Distill.C05.every_kind_strips
#print axioms Distill.C05.strip_call_present
#print axioms Distill.C05.no_script_style_in_clones
#print axioms Distill.C05.get_output_nodes_tie
#print axioms Distill.RenderProps.text_render_attrs_safe
#print axioms Distill.RenderProps.source_tie
#print axioms Distill.RenderProps.media_attrs_safe
#print axioms Distill.RenderProps.embed_placeholder_inert
#print axioms Distill.RenderProps.media_source_tie
#print axioms Distill.RenderProps.foreign_raw_text_kept_out
#print axioms Distill.DomHelpers.dom_helpers_tie
#print axioms Distill.DomHelpers.clone_unbounded
