import Distill.Props.C12
#print axioms Distill.C12.noninterference
#print axioms Distill.C12.runSchedule_other
#print axioms Distill.C12.no_shared_writes
#print axioms Distill.C12.package_vars_tie
