import Distill.Props.C06
#print axioms Distill.C06.abs_everywhere
#print axioms Distill.C06.src_tags_tie
#print axioms Distill.C06.url_reaches_every_kind
#print axioms Distill.C06.passes_present
#print axioms Distill.absAttrs_abs
#print axioms Distill.RenderProps.text_render_urls_abs
#print axioms Distill.RenderProps.source_tie
#print axioms Distill.C06.convert_dedups_first
#print axioms Distill.C06.dedup_unique
#print axioms Distill.C06.dedup_reads_unaffected
#print axioms Distill.RenderProps.media_urls_abs
#print axioms Distill.RenderProps.media_source_tie
#print axioms Distill.C06.srcset_regexp_tie
#print axioms Distill.C06.srcset_candidates_found
#print axioms Distill.C06.srcset_candidates_resolved
#print axioms Distill.C06.srcset_resolved_read_back
#print axioms Distill.AbsURLProps.create_abs_tie
#print axioms Distill.AbsURLProps.pass_through_unchanged
#print axioms Distill.AbsURLProps.otherwise_resolved
#print axioms Distill.AbsURLProps.create_cases
#print axioms Distill.C06.srcset_nothing_lost
#print axioms Distill.C06.srcset_pieces_spell_value
