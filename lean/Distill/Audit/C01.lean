import Distill.Props.C01
#print axioms Distill.C01.retainer_never_panics
#print axioms Distill.C01.text_windows_nonempty
#print axioms Distill.C01.convert_total
#print axioms Distill.C01.embed_kinds_not_tags
#print axioms Distill.C01.hazard_sites_tie
#print axioms Distill.buildDoc_nonText
#print axioms Distill.rrun_total
#print axioms Distill.C01.paging_url_total
#print axioms Distill.C01.pattern_fields_wf
#print axioms Distill.C01.pattern_construct_total
#print axioms Distill.C01.groups_prev_never_nil
#print axioms Distill.C01.prefix_slice_total
#print axioms Distill.C01.prefix_test_tie
#print axioms Distill.FltProps.filters_total
#print axioms Distill.FltProps.source_tie
#print axioms Distill.RenderProps.text_render_total
#print axioms Distill.RenderProps.source_tie
#print axioms Distill.C01.apply_bodies_tie
#print axioms Distill.C01.apply_shape
#print axioms Distill.C01.root_is_element
#print axioms Distill.C01.root_error_iff
#print axioms Distill.LinkScoreProps.page_diff_slices_in_range
