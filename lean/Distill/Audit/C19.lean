import Distill.Props.C19
#print axioms Distill.C19.root_match_spec
#print axioms Distill.C19.prefix_lookalike_rejected
#print axioms Distill.C19.prefix_lookalike_not_suffix
#print axioms Distill.C19.accepted_host_iff
#print axioms Distill.C19.accepted_host_ends_with_root
#print axioms Distill.C19.suffix_lookalike_rejected
#print axioms Distill.C19.embed_only_allowlisted
#print axioms Distill.C19.idOf_mem
#print axioms Distill.C19.iframe_skipped_silently
#print axioms Distill.RenderProps.embed_placeholder_inert
#print axioms Distill.RenderProps.media_source_tie
