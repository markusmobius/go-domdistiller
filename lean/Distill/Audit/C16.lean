import Distill.Props.C16
#print axioms Distill.C16.detect_pages_src
#print axioms Distill.C16.detect_next_src
#print axioms Distill.C16.number_links
#print axioms Distill.C16.number_prev_is_anchor
#print axioms Distill.C16.prevnext_is_candidate
#print axioms Distill.C16.prevnext_max
#print axioms Distill.C16.prevnext_allowed
#print axioms Distill.C16.scan_tie
#print axioms Distill.C16.scan_groups_ok
#print axioms Distill.C16.scan_prev_never_nil
#print axioms Distill.AbsURLProps.create_abs_tie
#print axioms Distill.AbsURLProps.pass_through_unchanged
#print axioms Distill.AbsURLProps.otherwise_resolved
#print axioms Distill.AbsURLProps.create_cases
#print axioms Distill.LinkScoreProps.prevnext_regexps_tie
#print axioms Distill.LinkScoreProps.prevnext_word_lists_read
#print axioms Distill.LinkScoreProps.prevnext_bodies_tie
#print axioms Distill.LinkScoreProps.score_of_quiet_anchor
#print axioms Distill.LinkScoreProps.labelled_anchor_wins
#print axioms Distill.LinkScoreProps.page_number_bodies_tie
#print axioms Distill.LinkScoreProps.page_info_provenance
#print axioms Distill.LinkScoreProps.other_host_is_no_page_link
#print axioms Distill.LinkScoreProps.scan_provenance
#print axioms Distill.LinkScoreProps.page_diff_slices_in_range
#print axioms Distill.LinkScoreProps.find_outlink_provenance
#print axioms Distill.C16.scan_group_urls
#print axioms Distill.C16.page_number_next_from_dom
#print axioms Distill.C16.page_number_prev_from_dom
#print axioms Distill.LinkScoreProps.find_outlink_is_best
