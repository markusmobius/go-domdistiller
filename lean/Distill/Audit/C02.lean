import Distill.Props.C02
#print axioms Distill.C02.excerpt
#print axioms Distill.C02.windows_partition
#print axioms Distill.C02.handed_text_is_source_text
#print axioms Distill.builder_windows
#print axioms Distill.convertNode_nodeIds_sublist
#print axioms Distill.FltProps.filters_no_duplication
#print axioms Distill.FltProps.source_tie
#print axioms Distill.RenderProps.tree_clone_excerpt
#print axioms Distill.RenderProps.text_render_excerpt
#print axioms Distill.RenderProps.body_step_keeps_characters
#print axioms Distill.RenderProps.doc_output_spec
#print axioms Distill.RenderProps.source_tie
#print axioms Distill.RenderProps.innertext_regexps_tie
#print axioms Distill.RenderProps.picture_reduced
#print axioms Distill.RenderProps.image_extract_tie
#print axioms Distill.C02.rendered_excerpt
#print axioms Distill.C02.rendered_excerpt_preorder
#print axioms Distill.RenderProps.text_render_never_adds
