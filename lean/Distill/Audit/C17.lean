import Distill.Props.C17
#print axioms Distill.C17.conventional_pagers
#print axioms Distill.C17.allCells_complete
#print axioms Distill.C17.coverage
#print axioms Distill.C17.families_ok
#print axioms Distill.C17.prevnext_labelled
#print axioms Distill.C17.pager_calls_give_group
#print axioms Distill.C17.ascending_range
#print axioms Distill.C17.first_page_bare
#print axioms Distill.C17.term_reading_tie
#print axioms Distill.C17.decorated_current_page
#print axioms Distill.C17.lettered_term_is_no_number
#print axioms Distill.LinkScoreProps.prevnext_regexps_tie
#print axioms Distill.LinkScoreProps.prevnext_word_lists_read
#print axioms Distill.LinkScoreProps.prevnext_bodies_tie
#print axioms Distill.LinkScoreProps.score_of_quiet_anchor
#print axioms Distill.LinkScoreProps.labelled_anchor_wins
#print axioms Distill.LinkScoreProps.page_number_bodies_tie
#print axioms Distill.LinkScoreProps.page_info_provenance
#print axioms Distill.LinkScoreProps.other_host_is_no_page_link
#print axioms Distill.LinkScoreProps.scan_provenance
#print axioms Distill.C17.conventional_pager_scan
#print axioms Distill.LinkScoreProps.find_outlink_provenance
#print axioms Distill.LinkScoreProps.find_outlink_is_best
#print axioms Distill.C17.labelled_anchor_is_returned
