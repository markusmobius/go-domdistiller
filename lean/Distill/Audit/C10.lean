import Distill.Props.C10
#print axioms Distill.C10.frame
#print axioms Distill.C10.hstep_frame
#print axioms Distill.C10.mutation_sites_tie
#print axioms Distill.C10.convert_clones_first
#print axioms Distill.C10.apply_for_url_copies
#print axioms Distill.DomHelpers.dom_helpers_tie
#print axioms Distill.DomHelpers.clone_unbounded
