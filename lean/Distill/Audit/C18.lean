import Distill.Props.C18
#print axioms Distill.C18.cascade_eq
#print axioms Distill.C18.firstRule_spec
#print axioms Distill.C18.default_data
#print axioms Distill.C18.context_free
#print axioms Distill.C18.role_tables
#print axioms Distill.C18.table_count_bodies_tie
#print axioms Distill.C18.cols_cover_every_row
#print axioms Distill.C18.cols_cover_append
