import Distill.Props.C04
#print axioms Distill.C04.hidden_sem
#print axioms Distill.C04.default_display_none
#print axioms Distill.C04.skip_tags
#print axioms Distill.C04.walk_skips
#print axioms Distill.C04.hidden_element_silent
#print axioms Distill.C04.output_nodes_visible
#print axioms Distill.convertNode_visible_sublist
#print axioms Distill.C04.get_output_nodes_tie
#print axioms Distill.RenderProps.table_clone_visible_only
#print axioms Distill.RenderProps.hidden_not_collected
#print axioms Distill.RenderProps.media_source_tie
#print axioms Distill.RenderProps.picture_reduced
#print axioms Distill.RenderProps.figure_caption_visible
#print axioms Distill.RenderProps.hidden_caption_ignored
#print axioms Distill.RenderProps.created_caption_shape
#print axioms Distill.RenderProps.image_extract_tie
#print axioms Distill.C04.style_regexps_tie
#print axioms Distill.C04.style_bodies_tie
#print axioms Distill.C04.display_declarations_read
#print axioms Distill.C04.last_display_decides
#print axioms Distill.C04.important_display_stays
#print axioms Distill.C04.visibility_hidden_any_spelling
#print axioms Distill.C04.display_none_declaration_silences
#print axioms Distill.C04.visibility_declaration_silences
#print axioms Distill.C04.derive_supplies
