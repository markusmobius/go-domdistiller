import Distill.Props.C20
#print axioms Distill.C20.extract_content_tie
#print axioms Distill.C20.convert_clone_tie
#print axioms Distill.C20.two_pass_enough
#print axioms Distill.C20.two_pass_fallback
#print axioms Distill.C20.default_ignores_markers
#print axioms Distill.C20.stable_needed
#print axioms Distill.Prune.skip_eq_prune
#print axioms Distill.Prune.skip_eq_prune_node
#print axioms Distill.DomHelpers.dom_helpers_tie
#print axioms Distill.DomHelpers.clone_unbounded
#print axioms Distill.C20.candidate_regexps_tie
#print axioms Distill.C20.candidate_words_read
#print axioms Distill.C20.candidate_bodies_tie
#print axioms Distill.C20.listed_word_matches
#print axioms Distill.C20.no_word_no_match
#print axioms Distill.C20.marked_element_pruned
