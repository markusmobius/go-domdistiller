import Distill.Props.C13
#print axioms Distill.C13.opts_uses_tie
#print axioms Distill.C13.result_fields_tie
#print axioms Distill.C13.logger_sites_tie
#print axioms Distill.C13.log_irrelevant
#print axioms Distill.C13.pagination_only
#print axioms Distill.C13.pagination_empty
#print axioms Distill.C13.pagination_dispatch
#print axioms Distill.C13.url_field
#print axioms Distill.C13.apply_total
#print axioms Distill.C13.entry_points_tie
#print axioms Distill.C13.url_entry_point_shape
#print axioms Distill.C13.url_entry_point_url
