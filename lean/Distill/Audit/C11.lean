import Distill.Props.C11
#print axioms Distill.C11.insert_perm
#print axioms Distill.C11.all_perm
#print axioms Distill.C11.max_perm
#print axioms Distill.C11.map_ranges_tie
#print axioms Distill.C11.candidates_not_ranged
#print axioms Distill.C11.no_package_writes
#print axioms Distill.C11.entry_points_delegate
