import Distill.Props.C09
#print axioms Distill.C09.views_same_tree_tie
#print axioms Distill.C09.text_view_is_innerText_of_html_view
#print axioms Distill.C09.processed_same_text
#print axioms Distill.C09.wordcount_additive
#print axioms Distill.C09.innerText_count
#print axioms Distill.C09.blank_counts_zero
#print axioms Distill.FltProps.word_count_is_sum
#print axioms Distill.FltProps.source_tie
#print axioms Distill.RenderProps.doc_output_spec
#print axioms Distill.RenderProps.doc_output_append
#print axioms Distill.RenderProps.source_tie
#print axioms Distill.RenderProps.image_urls_from_clone
#print axioms Distill.RenderProps.table_urls_from_clone
#print axioms Distill.RenderProps.doc_image_urls_spec
#print axioms Distill.RenderProps.media_source_tie
#print axioms Distill.RenderProps.innertext_regexps_tie
#print axioms Distill.RenderProps.image_extract_tie
#print axioms Distill.C09.word_counters_tie
#print axioms Distill.C09.counters_agree_without_cjk
