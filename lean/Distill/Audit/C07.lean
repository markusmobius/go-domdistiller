import Distill.Props.C07
#print axioms Distill.C07.nestable_tie
#print axioms Distill.C07.emit_balanced
#print axioms Distill.C07.addTag_flushes
#print axioms Distill.C07.flushBlock_nothing_pending
#print axioms Distill.C07.retainer_spec
#print axioms Distill.C07.retainer_final_flags
#print axioms Distill.C07.enclosing_pair_retained
#print axioms Distill.convertNode_balanced
#print axioms Distill.RenderProps.nestable_root_emits_inner
#print axioms Distill.RenderProps.non_nestable_root_emits_outer
#print axioms Distill.RenderProps.source_tie
#print axioms Distill.RenderProps.climb_stops_at_nestable
