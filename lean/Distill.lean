import Distill.Props.C01
import Distill.Props.C02
import Distill.Props.C03
import Distill.Props.C04
import Distill.Props.C05
import Distill.Props.C06
import Distill.Props.C07
import Distill.Props.C08
import Distill.Props.C09
import Distill.Props.C10
import Distill.Props.C11
import Distill.Props.C12
import Distill.Props.C13
import Distill.Props.C14
import Distill.Props.C15
import Distill.Props.C16
import Distill.Props.C17
import Distill.Props.C18
import Distill.Props.C19
import Distill.Props.C20
import Distill.Driver.Slices
